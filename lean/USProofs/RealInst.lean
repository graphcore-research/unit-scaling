/-
  The real-number instance of the scalar layer: the number system the theorems are about, and the
  simp set `real_model` that turns the model's scalar vocabulary at `ℝ` into Mathlib's.
-/
import Mathlib.Analysis.SpecialFunctions.Pow.Real
import Mathlib.Analysis.SpecialFunctions.Trigonometric.Basic
import Mathlib.Analysis.SpecialFunctions.Sqrt
import USProofs.Attr
import USModel.Scales

open USModel

noncomputable instance : Transc ℝ where
  sqrt := Real.sqrt
  exp := Real.exp
  log := Real.log
  pow := fun x y => x ^ y
  pi := Real.pi

namespace USProofs

attribute [real_model] Nat.cast_zero Nat.cast_one Nat.cast_ofNat

@[simp, real_model] theorem except_bind_ok {ε α β : Type} (a : α) (f : α → Except ε β) :
    (Except.ok a >>= f) = f a := rfl
@[simp, real_model] theorem except_bind_error {ε α β : Type} (e : ε) (f : α → Except ε β) :
    ((Except.error e : Except ε α) >>= f) = Except.error e := rfl
@[simp, real_model] theorem except_pure {ε α : Type} (a : α) : (pure a : Except ε α) = Except.ok a := rfl

theorem except_bind_eq_ok {ε α β : Type} {x : Except ε α} {f : α → Except ε β} {b : β} :
    (x >>= f) = .ok b ↔ ∃ a, x = .ok a ∧ f a = .ok b := by
  cases x with
  | error e => exact ⟨nofun, nofun⟩
  | ok a => exact ⟨fun h => ⟨a, rfl, h⟩, fun ⟨_, h, h'⟩ => by cases h; exact h'⟩

@[simp, real_model] theorem transc_sqrt (x : ℝ) : Transc.sqrt x = Real.sqrt x := rfl
@[simp, real_model] theorem transc_exp (x : ℝ) : Transc.exp x = Real.exp x := rfl
@[simp, real_model] theorem transc_log (x : ℝ) : Transc.log x = Real.log x := rfl
@[simp, real_model] theorem transc_pow (x y : ℝ) : Transc.pow x y = x ^ y := rfl
@[simp, real_model] theorem transc_pi : (Transc.pi : ℝ) = Real.pi := rfl

@[simp, real_model] theorem nat_real (n : Nat) : (USModel.nat n : ℝ) = (n : ℝ) := rfl
/-- the model writes a scale of one as `nat 1` (`normScales`, `embeddingScales`, the sum losses) -/
theorem nat_one : (USModel.nat 1 : ℝ) = 1 := Nat.cast_one
@[simp, real_model] theorem half_real : (USModel.half : ℝ) = 1 / 2 := by
  simp only [half, real_model]

/-- `x ** 0.5` written out, as it appears where the model takes the exponent as a parameter -/
@[real_model] theorem rpow_half (x : ℝ) : x ^ ((1 : ℝ) / 2) = √x := (Real.sqrt_eq_rpow x).symm

@[real_model] theorem powHalf_real (x : ℝ) : powHalf x = √x := by
  simp only [powHalf, real_model]

/-- also for `x < 0`, where both sides are 0 -/
@[real_model] theorem powNegHalf_real (x : ℝ) : powNegHalf x = 1 / √x := by
  simp only [powNegHalf, transc_pow, half_real]
  rcases le_or_gt 0 x with hx | hx
  · rw [Real.rpow_neg hx, rpow_half, one_div]
  · rw [Real.rpow_def_of_neg hx, Real.sqrt_eq_zero_of_nonpos hx.le, neg_mul, Real.cos_neg,
      one_div_mul_eq_div, Real.cos_pi_div_two, mul_zero, div_zero]

theorem sq_div_sqrt (x : ℝ) {y : ℝ} (hy : 0 ≤ y) : (x / √y) ^ 2 = x ^ 2 / y := by
  rw [div_pow, Real.sq_sqrt hy]

/-! Unit scale is one of two facts: a sum of `x` unit terms is scaled by `x ** -0.5`, a mean over
    `x` of them by `x ** 0.5`. -/

theorem sq_inv_sqrt_mul {x : ℝ} (hx : 0 < x) : (1 / √x) ^ 2 * x = 1 := by
  rw [div_pow, one_pow, Real.sq_sqrt hx.le, one_div_mul_cancel hx.ne']

theorem sq_sqrt_mul_inv {x : ℝ} (hx : 0 < x) : √x ^ 2 * (1 / x) = 1 := by
  rw [Real.sq_sqrt hx.le, mul_one_div_cancel hx.ne']

end USProofs
