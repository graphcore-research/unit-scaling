/-
  C03 — broadcasting: the term counts of `add` are exact integers.  If two shapes broadcast to `out`
  then the element count of each operand divides that of `out`, so each gradient element of an operand
  is the sum of exactly `numel(out) / numel(operand)` upstream elements (the uniform fibre size of the
  broadcast), whatever mixture of missing leading dims and size-1 dims the operand has.
-/
import USProofs.Properties.C03

open USModel

namespace USProofs.C03

theorem prodNat_eq (l : List ℕ) : prodNat l = l.prod := List.prod_eq_foldl_nat.symm

theorem prodNat_nil : prodNat [] = 1 := rfl

theorem go_cons {x y : ℕ} {xs ys r : List ℕ} (h : broadcastShapes.go (x :: xs) (y :: ys) = some r) :
    ∃ d r', broadcastShapes.go xs ys = some r' ∧ r = d :: r' ∧ x ∣ d ∧ y ∣ d ∧ (d = x ∨ d = y) := by
  rw [broadcastShapes.go] at h
  cases hgo : broadcastShapes.go xs ys with
  | none => rw [hgo] at h; cases h
  | some r' =>
    simp only [hgo] at h
    split_ifs at h with h1 h2 h3 <;> cases h
    · exact ⟨x, r', rfl, rfl, dvd_rfl, h1 ▸ dvd_rfl, .inl rfl⟩
    · exact ⟨y, r', rfl, rfl, h2 ▸ one_dvd y, dvd_rfl, .inr rfl⟩
    · exact ⟨x, r', rfl, rfl, dvd_rfl, h3 ▸ one_dvd x, .inl rfl⟩

/-- on reversed (trailing-dim-first) shapes -/
theorem go_spec : ∀ (xs ys r : List ℕ), broadcastShapes.go xs ys = some r →
    xs.prod ∣ r.prod ∧ ys.prod ∣ r.prod ∧ ∀ d ∈ r, d ∈ xs ∨ d ∈ ys
  | [], ys, r, h => by
    obtain rfl : ys = r := Option.some.inj h
    exact ⟨one_dvd _, dvd_rfl, fun d hd => .inr hd⟩
  | x :: xs, [], r, h => by
    obtain rfl : x :: xs = r := Option.some.inj h
    exact ⟨dvd_rfl, one_dvd _, fun d hd => .inl hd⟩
  | x :: xs, y :: ys, r, h => by
    obtain ⟨d, r', h', rfl, hx, hy, hd⟩ := go_cons h
    obtain ⟨h1, h2, h3⟩ := go_spec xs ys r' h'
    simp only [List.prod_cons, List.mem_cons, forall_eq_or_imp]
    exact ⟨mul_dvd_mul hx h1, mul_dvd_mul hy h2, hd.imp .inl .inl, fun e he => (h3 e he).imp .inr .inr⟩

theorem broadcast_dvd (a b out : List ℕ) (h : broadcastShapes a b = some out) :
    prodNat a ∣ prodNat out ∧ prodNat b ∣ prodNat out ∧ ∀ d ∈ out, d ∈ a ∨ d ∈ b := by
  obtain ⟨r, hr, rfl⟩ := Option.map_eq_some_iff.mp h
  simpa only [prodNat_eq, List.prod_reverse, List.mem_reverse] using go_spec _ _ r hr

/-- `add` is unit-scaled for every pair of broadcastable shapes with all dims positive (neither
    a single element): no side condition on the quotient counts is needed — they are exact and
    positive. -/
theorem add_unit_scale_all (a b out : List ℕ) (hb : broadcastShapes a b = some out)
    (hpa : ∀ d ∈ a, 0 < d) (hpb : ∀ d ∈ b, 0 < d) (ha1 : prodNat a ≠ 1) (hb1 : prodNat b ≠ 1) :
    ∃ s, addScales (α := ℝ) a b none = .ok s ∧ UnitScaled s (addTerms a b out) ∧
      prodNat out = prodNat a * (prodNat out / prodNat a) ∧ prodNat out = prodNat b * (prodNat out / prodNat b) := by
  obtain ⟨d1, d2, hm⟩ := broadcast_dvd a b out hb
  have hout : 0 < prodNat out := prodNat_eq out ▸
    List.prod_pos fun d hd => (hm d hd).elim (hpa d) (hpb d)
  obtain ⟨s, hs, hu⟩ := add_unit_scale a b out hb ha1 hb1
    (Nat.div_pos (Nat.le_of_dvd hout d1) (prodNat_eq a ▸ List.prod_pos hpa))
    (Nat.div_pos (Nat.le_of_dvd hout d2) (prodNat_eq b ▸ List.prod_pos hpb))
  exact ⟨s, hs, hu, (Nat.mul_div_cancel' d1).symm, (Nat.mul_div_cancel' d2).symm⟩

/-- an operand that is both lower-rank and has a size-1 dim (the pattern the seeded change C03-m3 gets wrong): both count,
    the fibre is 4 · 8 -/
example : broadcastShapes [1, 16] [4, 8, 16] = some [4, 8, 16] := by decide
example : prodNat [4, 8, 16] / prodNat [1, 16] = 32 := by decide

end USProofs.C03
