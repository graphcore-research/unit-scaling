/-
  C11 (continued) — the no-aliasing clause for the whole call, and n-step weight decay for AdamW.
  `C11.scaled_lr_fresh` is within one source group; here two scaled parameters of different input
  groups of a `scaled_parameters` call never share a learning-rate tensor either, and none of them
  is a tensor of the caller.
-/
import USProofs.Properties.C11

open USModel

namespace USProofs.C11Global
open USProofs.C11

variable {k : OptKind} {indep allow : Bool}

theorem scaled_lr_fresh_call {lr : Option (LrVal ℝ)} {wd : ℝ} (es : List (Entry ℝ))
    {heap h' : List ℝ} {gs : List (OutGroup ℝ)}
    (h : scaledParameters k indep allow lr wd heap es = .ok (h', gs)) :
    (scaledCells gs).Nodup ∧ ∀ a ∈ scaledCells gs, heap.length ≤ a ∧ a < h'.length := by
  have hg := (scaledParameters_spec es h).2
  exact ⟨hg.nodup, fun _ => hg.mem⟩

theorem caller_cell_not_scaled {lr : Option (LrVal ℝ)} {wd : ℝ} (es : List (Entry ℝ))
    {heap h' : List ℝ} {gs : List (OutGroup ℝ)}
    (h : scaledParameters k indep allow lr wd heap es = .ok (h', gs))
    (a : ℕ) (ha : a < heap.length) : a ∉ scaledCells gs :=
  fun hm => ha.not_ge ((scaledParameters_spec es h).2.mem hm).1

theorem adamw_zero_steps (lr wd' eps w p : ℝ) (h : lr * wd' = w) (n : ℕ) :
    (adamwZeroStep lr wd' eps)^[n] p = (1 - w) ^ n * p :=
  iterate_eq_pow_mul (fun p => adamw_zero_step lr wd' eps w p h) n p

theorem decay_lr_independent (lr₁ lr₂ wd₁ wd₂ eps₁ eps₂ p : ℝ) (h : lr₁ * wd₁ = lr₂ * wd₂)
    (n : ℕ) :
    (adamwZeroStep lr₁ wd₁ eps₁)^[n] p = (adamwZeroStep lr₂ wd₂ eps₂)^[n] p ∧
    (sgdZeroStep lr₁ wd₁)^[n] p = (sgdZeroStep lr₂ wd₂)^[n] p := by
  constructor
  · rw [adamw_zero_steps lr₁ wd₁ eps₁ _ p rfl, adamw_zero_steps lr₂ wd₂ eps₂ _ p h.symm]
  · rw [sgd_zero_steps lr₁ wd₁ _ p rfl, sgd_zero_steps lr₂ wd₂ _ p h.symm]

-- two groups sharing one lr tensor get two distinct fresh cells
example :
    ∃ h' gs, scaledParameters (α := ℝ) .adam true false none 0.1 [0.5]
      [.group ⟨[⟨0, some .bias, [3], none⟩], some (.cell 0), none, []⟩,
       .group ⟨[⟨1, some .output, [3, 4], none⟩], some (.cell 0), none, []⟩] = .ok (h', gs)
      ∧ scaledCells gs = [1, 2] :=
  ⟨_, _, rfl, rfl⟩

end USProofs.C11Global
