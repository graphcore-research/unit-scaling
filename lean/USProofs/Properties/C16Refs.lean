/-
  References of FX graphs (`USModel/Graph.lean`): the inputs of a node are the references of its positional and
  keyword arguments, and a graph is well formed when every input of a node is an earlier position.  Used by C15, C16, C19.
-/
import USModel.Graph

open USModel

namespace USProofs.C16

theorem refsList_eq_flatMap (xs : List Arg) : Arg.refsList xs = xs.flatMap Arg.refs := by
  induction xs with
  | nil => rfl
  | cons x xs ih => simp [Arg.refsList, ih]

theorem mem_inputs_iff (n : GNode) (c : Nat) :
    c ∈ n.inputs ↔ (∃ a ∈ n.args, c ∈ a.refs) ∨ ∃ kv ∈ n.kwargs, c ∈ kv.2.refs := by
  simp only [GNode.inputs, refsList_eq_flatMap, List.mem_eraseDups, List.mem_append, List.flatMap_map, List.mem_flatMap]

theorem wellFormed_iff {g : Graph} :
    g.wellFormed = true ↔ ∀ (n : GNode) (k : Nat), g[k]? = some n → ∀ c ∈ n.inputs, c < k := by
  simp only [Graph.wellFormed, List.all_eq_true, decide_eq_true_eq, Prod.forall, List.mem_zipIdx_iff_getElem?]

end USProofs.C16
