/-
  C15 — format simulation = straight-through quantisation exactly at matmul boundaries.
  Model: `USModel/SimFormat.lean`, `USModel/Graph.lean`.
  The quantisers and the quantised ops are `DOp`s whose equations hold by `rfl`; the backend is a `map` over the node list,
  so what is said of it is said node by node.
-/
import USModel.SimFormat

open USModel

namespace USProofs.C15

section quantisers
variable {X Y A B C : Type}

/-- `quantise_fwd` returns the quantised value and passes gradients through unchanged. -/
theorem qf_spec (q : X → X) (x g : X) : (QF q).fwd x = q x ∧ (QF q).vjp x g = g := ⟨rfl, rfl⟩
/-- `quantise_bwd` returns its input unchanged and quantises the gradient. -/
theorem qb_spec (q : X → X) (x g : X) : (QB q).fwd x = x ∧ (QB q).vjp x g = q g := ⟨rfl, rfl⟩

/-- A quantised linear computes the original op on forward-quantised input and weight (bias untouched) and hands
    the original op the backward-quantised output gradient; the gradients it returns are the original op's, passed
    straight through the forward quantisers. -/
theorem quantised_linear_spec (qa : A → A) (qb : B → B) (qy : Y → Y) (F : DOp (A × B × C) Y)
    (x : A × B × C) (g : Y) :
    (quantisedLinear qa qb qy F).fwd x = F.fwd (qa x.1, qb x.2.1, x.2.2) ∧
    (quantisedLinear qa qb qy F).vjp x g = F.vjp (qa x.1, qb x.2.1, x.2.2) (qy g) := ⟨rfl, rfl⟩

theorem quantised_sdpa_spec (q1 : A → A) (q2 : B → B) (q3 : C → C) (qy : Y → Y) (F : DOp (A × B × C) Y)
    (x : A × B × C) (g : Y) :
    (quantisedSdpa q1 q2 q3 qy F).fwd x = F.fwd (q1 x.1, q2 x.2.1, q3 x.2.2) ∧
    (quantisedSdpa q1 q2 q3 qy F).vjp x g = F.vjp (q1 x.1, q2 x.2.1, q3 x.2.2) (qy g) := ⟨rfl, rfl⟩

/-- a lossless format (the quantisers are the identity): the transformed operation is the original one -/
theorem lossless_identity (F : DOp (A × B × C) Y) :
    quantisedLinear id id id F = F ∧ quantisedSdpa id id id id F = F := by
  -- by eta: a `DOp` is its two fields, and `(x.1, x.2.1, x.2.2)` is `x`
  constructor <;> rfl
end quantisers

theorem backend_length (fwd bwd : Fmt) (g : Graph) : (simulateBackend fwd bwd g).length = g.length := by
  simp [simulateBackend]

/-- "nothing else changed": a node that is not a call of one of the four mapped functions is left as it was -/
theorem backend_other_unchanged (fwd bwd : Fmt) (n : GNode)
    (h : n.op ≠ "call_function" ∨ quantMap.lookup n.target = none) :
    replaceWithQuantised fwd bwd n = n := by
  unfold replaceWithQuantised
  rcases h with h | h
  · simp [h]
  · split
    · rw [h]
    · rfl

theorem backend_nodes (fwd bwd : Fmt) (g : Graph) (i : Nat) (n : GNode) (h : g[i]? = some n) :
    (simulateBackend fwd bwd g)[i]? = some (replaceWithQuantised fwd bwd n) := by
  simp [simulateBackend, h]

/-- a mapped call gets the quantised target and the two format tuples spliced in after the
    third positional argument; a 2-argument linear gets its bias (keyword or `None`) as third -/
theorem backend_replaced (fwd bwd : Fmt) (n : GNode) (q : String) (hop : n.op = "call_function")
    (hq : quantMap.lookup n.target = some q) (h3 : n.args.length ≠ 2) :
    replaceWithQuantised fwd bwd n =
      { n with target := q, args := n.args.take 3 ++ [fwd.toArg, bwd.toArg] ++ n.args.drop 3 } := by
  unfold replaceWithQuantised
  rw [if_pos (beq_iff_eq.mpr hop), hq, if_neg (mt beq_iff_eq.mp h3)]

theorem backend_replaced_two_args (fwd bwd : Fmt) (n : GNode) (q : String) (hop : n.op = "call_function")
    (hq : quantMap.lookup n.target = some q) (a b : Arg) (h2 : n.args = [a, b]) :
    replaceWithQuantised fwd bwd n =
      { n with target := q,
               args := [a, b, (lookupKw n.kwargs "bias").getD (.lit "None"), fwd.toArg, bwd.toArg],
               kwargs := eraseKw n.kwargs "bias" } := by
  unfold replaceWithQuantised
  rw [if_pos (beq_iff_eq.mpr hop), hq, h2]
  rfl

/-- the repaired defect F-C15b: after the rewrite of a 2-argument linear no keyword named `bias` remains,
    so the bias is bound exactly once -/
theorem splice_no_duplicate_bias (fwd bwd : Fmt) (n : GNode) (q : String) (hop : n.op = "call_function")
    (hq : quantMap.lookup n.target = some q) (a b : Arg) (h2 : n.args = [a, b]) :
    lookupKw (replaceWithQuantised fwd bwd n).kwargs "bias" = none := by
  rw [backend_replaced_two_args fwd bwd n q hop hq a b h2]
  simp [lookupKw, eraseKw, List.find?_eq_none]

/-- reading the tuple back rebuilds the instance from its four fields (structure eta) and runs `__post_init__` -/
theorem roundTrip_eq (f : Fmt) : f.roundTrip = f.normalise := rfl

/-- the formats the caller supplied travel through the graph unchanged: value set, rounding mode
    and random-bit count (the repaired defect F-C15a).  `hn`: an `FPFormat` instance has been through `__post_init__`
    (`Fmt.normalise`), which reading the tuple back runs again. -/
theorem format_roundtrip (f : Fmt) (hn : f = f.normalise) : f.roundTrip = f :=
  (roundTrip_eq f).trans hn.symm

theorem normalise_idem (f : Fmt) : f.normalise.normalise = f.normalise := by
  by_cases h : f.srbits = 0 ∧ f.rounding = "stochastic"
  · -- the second pass either sets `srbits` to the value it has or does nothing
    have e : f.normalise = { f with srbits := 23 - f.mantissaBits } := if_pos h
    rw [e, Fmt.normalise]
    split <;> rfl
  · have e : f.normalise = f := if_neg h
    rw [e, e]

/-- `simulate_fp8` is the E4M3-forward / E5M2-backward instance with all-bits stochastic rounding -/
theorem fp8_formats : fp8Fwd = ⟨4, 3, "stochastic", 20⟩ ∧ fp8Bwd = ⟨5, 2, "stochastic", 21⟩ := by
  constructor <;> decide +kernel

example : (replaceWithQuantised fp8Fwd fp8Bwd
    { op := "call_function", target := "F.linear", args := [.ref 0, .ref 1], kwargs := [("bias", .ref 2)] }).args.length = 5 := by
  decide +kernel

end USProofs.C15
