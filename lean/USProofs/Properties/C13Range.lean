/-
  C13 — the three range properties (`max_absolute_value`, `min_absolute_normal`, `min_absolute_subnormal`) are the
  extremes of the format's value set `{ fmtVal E M e m | e < 2^E, m < 2^M }`, and the maximum is the value of the bit
  pattern the quantiser clips at.  `fmtVal` is monotone in both fields (`fmtVal_mono`); the rest is exponent arithmetic.
-/
import USProofs.Properties.C13Value

open USModel USModel.F32

namespace USProofs.C13

theorem fmtVal_mono (E M : ℕ) {e e' m m' : ℕ} (he : e ≤ e') (hm : m ≤ m') : fmtVal E M e m ≤ fmtVal E M e' m' := by
  have hz : ∀ {a b : ℤ}, a ≤ b → (2 : ℚ) ^ a ≤ (2 : ℚ) ^ b := zpow_le_zpow_right₀ one_le_two
  rcases Nat.eq_zero_or_pos e' with rfl | he'
  · rw [Nat.le_zero.mp he, fmtVal_zero, fmtVal_zero]
    exact mul_le_mul_of_nonneg_right (Nat.cast_le.mpr hm) (two_zpow_pos _).le
  rw [fmtVal_pos he']
  rcases Nat.eq_zero_or_pos e with rfl | he0
  · rw [fmtVal_zero]
    exact mul_le_mul (Nat.cast_le.mpr (le_trans hm (Nat.le_add_left _ _))) (hz (by omega)) (two_zpow_pos _).le
      (Nat.cast_nonneg _)
  · rw [fmtVal_pos he0]
    exact mul_le_mul (Nat.cast_le.mpr (Nat.add_le_add_left hm _)) (hz (by omega)) (two_zpow_pos _).le
      (Nat.cast_nonneg _)

/-- `max_absolute_value = 2^(2^(E-1)-1)·(2 − 2^-M)` with the significand as an integer -/
theorem maxAbsValue_eq (E M : ℕ) :
    maxAbsValue E M = ((2 ^ M + (2 ^ M - 1) : ℕ) : ℚ) * (2 : ℚ) ^ (((2 ^ (E - 1) - 1 : ℕ) : ℤ) - M) := by
  have hM := Nat.two_pow_pos M
  have hinv : (2 : ℚ) ^ (M : ℤ) * 2 ^ (-(M : ℤ)) = 1 := by rw [← two_zpow_add, add_neg_cancel, zpow_zero]
  -- cast the significand to `2·2^M − 1`, split off `2^-M`, and multiply it in: `(2·2^M − 1)·2^-M = 2 − 2^-M`
  rw [← Nat.add_sub_assoc hM, Nat.cast_sub (Nat.le_add_right_of_le hM), Nat.cast_add, Nat.cast_pow, Nat.cast_ofNat,
    Nat.cast_one, ← two_mul, ← zpow_natCast, sub_eq_add_neg _ (M : ℤ), two_zpow_add, mul_left_comm, sub_mul, mul_assoc 2,
    hinv, mul_one, one_mul, maxAbsValue]

/-- `max_absolute_value` is the value of the largest encoding (all exponent and mantissa bits set) … -/
theorem max_is_top_encoding (E M : ℕ) (hE : 1 ≤ E) :
    fmtVal E M (2 ^ E - 1) (2 ^ M - 1) = maxAbsValue E M := by
  -- the top exponent field is the bias plus the top exponent
  have h : 2 ^ E - 1 = 2 ^ (E - 1) - 1 + 2 ^ (E - 1) := by
    rw [← Nat.two_pow_pred_add_two_pow_pred hE, Nat.sub_add_comm (Nat.two_pow_pos _)]
  rw [h, fmtVal_pos ((Nat.two_pow_pos (E - 1)).trans_le (Nat.le_add_left _ _)), maxAbsValue_eq,
    Nat.cast_add _ (2 ^ (E - 1)), Nat.cast_pow, Nat.cast_ofNat, add_sub_cancel_right]

/-- … and of the bit pattern the quantiser clips at -/
theorem val_absmaxBits (E M : ℕ) (hE : 1 ≤ E) (hM : M ≤ 23) :
    val (absmaxBits E M) = maxAbsValue E M := by
  rw [absmaxBits, val_coarse_pattern M (2 ^ (E - 1) - 1 + 127) _ hM ((by decide : 1 ≤ 127).trans (Nat.le_add_left _ _))
    (Nat.sub_lt (Nat.two_pow_pos M) Nat.one_pos), maxAbsValue_eq, Nat.cast_add (2 ^ (E - 1) - 1) 127,
    Nat.cast_ofNat, add_sub_cancel_right]

theorem fmtVal_le_max (E M e m : ℕ) (hE : 1 ≤ E) (he : e ≤ 2 ^ E - 1) (hm : m ≤ 2 ^ M - 1) :
    fmtVal E M e m ≤ fmtVal E M (2 ^ E - 1) (2 ^ M - 1) :=
  fmtVal_mono E M he hm

/-- `min_absolute_normal`: exponent field 1, mantissa 0; every normal encoding is at least that -/
theorem min_normal_spec (E M e m : ℕ) (he : 1 ≤ e) :
    fmtVal E M 1 0 = minAbsNormal E ∧ fmtVal E M 1 0 ≤ fmtVal E M e m := by
  refine ⟨?_, fmtVal_mono E M he (Nat.zero_le m)⟩
  rw [fmtVal_pos le_rfl, minAbsNormal, Nat.add_zero, Nat.cast_pow, Nat.cast_ofNat, ← zpow_natCast, ← two_zpow_add]
  congr 1
  push_cast
  ring

/-- `min_absolute_subnormal`: exponent field 0, mantissa 1; every non-zero subnormal encoding is at least that, and every
    subnormal is below the smallest normal -/
theorem min_subnormal_spec (E M m : ℕ) (hm : 1 ≤ m) (hm' : m < 2 ^ M) :
    fmtVal E M 0 1 = minAbsSubnormal E M ∧ fmtVal E M 0 1 ≤ fmtVal E M 0 m ∧ fmtVal E M 0 m < fmtVal E M 1 0 := by
  refine ⟨?_, fmtVal_mono E M le_rfl hm, ?_⟩
  · rw [fmtVal_zero, minAbsSubnormal, minAbsNormal, Nat.cast_one, one_mul, ← two_zpow_add]
    congr 1
  · rw [fmtVal_zero, fmtVal_pos le_rfl, Nat.add_zero, Nat.cast_one]
    exact mul_lt_mul_of_pos_right (Nat.cast_lt.mpr hm') (two_zpow_pos _)

end USProofs.C13
