/-
  C19 — graph pruning removes exactly the intended nodes, keeps the graph connected.
  Model: `USModel/Prune.lean`.
  `_prune` is a filter followed by a map over the surviving nodes (`pruneNode_eq`); what the map does to the references of a
  node, at any nesting of its arguments, is `inputs_mapRefs`; a helper is a fold of such steps (`pruneSweep_induction`).
-/
import USModel.Prune
import USProofs.Properties.C16Refs
import Batteries.Tactic.Init

open USModel
open USProofs.C16 (refsList_eq_flatMap)

namespace USProofs.C19

mutual
theorem refs_mapRefs (f : Nat → Arg) : ∀ a : Arg, (a.mapRefs f).refs = a.refs.flatMap (fun i => (f i).refs)
  | .ref i => by simp [Arg.mapRefs, Arg.refs]
  | .lit s => by simp [Arg.mapRefs, Arg.refs]
  | .seq t xs => by simp [Arg.mapRefs, Arg.refs, refsList_mapRefsList f xs]
theorem refsList_mapRefsList (f : Nat → Arg) :
    ∀ xs : List Arg, Arg.refsList (Arg.mapRefsList f xs) = (Arg.refsList xs).flatMap (fun i => (f i).refs)
  | [] => by simp [Arg.mapRefsList, Arg.refsList]
  | x :: xs => by
    simp [Arg.mapRefsList, Arg.refsList, refs_mapRefs f x, refsList_mapRefsList f xs, List.flatMap_append]
end

/-- inputs of a node all of whose references were mapped (`map_arg` over positional and keyword arguments) -/
theorem inputs_mapRefs (f : Nat → Arg) (n : GNode) (c : Nat) :
    c ∈ ({ n with args := Arg.mapRefsList f n.args, kwargs := n.kwargs.map fun (k, a) => (k, a.mapRefs f) } : GNode).inputs ↔
      ∃ i ∈ n.inputs, c ∈ (f i).refs := by
  have hk : Arg.refsList ((n.kwargs.map fun (k, a) => (k, a.mapRefs f)).map (·.2)) =
      (Arg.refsList (n.kwargs.map (·.2))).flatMap (fun i => (f i).refs) := by
    simp [refsList_eq_flatMap, List.flatMap_map, refs_mapRefs, List.flatMap_assoc]
  simp only [GNode.inputs, List.mem_eraseDups, refsList_mapRefsList, hk, ← List.flatMap_append, List.mem_flatMap]

/-- the substitution used by `_prune` -/
def subst (id : Nat) (replacement : Option Nat) : Nat → Arg :=
  fun i => if i == id then (match replacement with | some r => Arg.ref r | none => Arg.lit "None") else Arg.ref i

theorem subst_refs_eq (id : Nat) (replacement : Option Nat) (i : Nat) :
    (subst id replacement i).refs = if i = id then replacement.toList else [i] := by
  unfold subst
  by_cases h : i = id
  · rw [if_pos h, if_pos (beq_iff_eq.mpr h)]
    cases replacement <;> rfl
  · rw [if_neg h, if_neg (mt beq_iff_eq.mp h)]
    rfl

theorem mem_subst_refs {id : Nat} {replacement : Option Nat} {i c : Nat} :
    c ∈ (subst id replacement i).refs ↔ (i ≠ id ∧ c = i) ∨ (i = id ∧ replacement = some c) := by
  rw [subst_refs_eq]
  by_cases h : i = id <;> simp [h, eq_comm]

/-- the node `x` after `_prune(graph, id, replacement)` rewired it -/
def rewired (id : Nat) (replacement : Option Nat) (x : INode) : INode :=
  { x with n := { x.n with args := Arg.mapRefsList (subst id replacement) x.n.args,
                           kwargs := x.n.kwargs.map fun (k, a) => (k, a.mapRefs (subst id replacement)) } }

theorem pruneNode_eq (g : IGraph) (id : Nat) (replacement : Option Nat) :
    pruneNode g id replacement = (g.filter (·.id != id)).map (rewired id replacement) := rfl

theorem mem_prune (g : IGraph) (id : Nat) (replacement : Option Nat) (y : INode) :
    y ∈ pruneNode g id replacement ↔ ∃ x ∈ g, x.id ≠ id ∧ y = rewired id replacement x := by
  simp only [pruneNode_eq, List.mem_map, List.mem_filter, bne_iff_ne, and_assoc, @eq_comm _ y]

theorem rewired_inputs (id : Nat) (replacement : Option Nat) (x : INode) (c : Nat) :
    c ∈ (rewired id replacement x).n.inputs ↔ ∃ i ∈ x.n.inputs, c ∈ (subst id replacement i).refs :=
  inputs_mapRefs _ x.n c

/-- consumer-level bypass: a surviving node keeps every input other than the removed node and has the replacement wherever
    it had the removed node (positional, keyword or nested) — and nothing else -/
theorem prune_inputs (id r : Nat) (x : INode) (c : Nat) :
    c ∈ (rewired id (some r) x).n.inputs ↔ (c ∈ x.n.inputs ∧ c ≠ id) ∨ (c = r ∧ id ∈ x.n.inputs) := by
  simp only [rewired_inputs, mem_subst_refs, Option.some.injEq]
  constructor
  · rintro ⟨i, hi, ⟨ne, rfl⟩ | ⟨rfl, rfl⟩⟩
    exacts [Or.inl ⟨hi, ne⟩, Or.inr ⟨rfl, hi⟩]
  · rintro (⟨hc, ne⟩ | ⟨rfl, hid⟩)
    exacts [⟨c, hc, Or.inl ⟨ne, rfl⟩⟩, ⟨id, hid, Or.inr ⟨rfl, rfl⟩⟩]

/-- selective pruning cuts instead: a surviving node keeps exactly its other inputs -/
theorem cut_inputs (id : Nat) (x : INode) (c : Nat) :
    c ∈ (rewired id none x).n.inputs ↔ (c ∈ x.n.inputs ∧ c ≠ id) := by
  simp only [rewired_inputs, mem_subst_refs, reduceCtorEq, and_false, or_false]
  exact ⟨fun ⟨i, hi, ne, e⟩ => e ▸ ⟨hi, ne⟩, fun ⟨hc, ne⟩ => ⟨c, hc, ne, rfl⟩⟩

/-- no dangling reference (the repaired defect F-C19a): after pruning a node, no remaining node refers to it
    anywhere in its positional arguments — at any nesting depth — so erasing it cannot fail -/
theorem prune_no_dangling_args (g : IGraph) (id : Nat) (replacement : Option Nat) (hr : replacement ≠ some id) :
    ∀ x ∈ pruneNode g id replacement, id ∉ Arg.refsList x.n.args := by
  intro x hx
  obtain ⟨y, -, -, rfl⟩ := (mem_prune ..).mp hx
  simp only [rewired, refsList_mapRefsList, List.mem_flatMap, mem_subst_refs]
  rintro ⟨i, -, ⟨h, e⟩ | ⟨-, e⟩⟩
  exacts [h e.symm, hr e]

/-- …nor in its keyword arguments (the repaired defect F-C19b concerned keyword inputs) -/
theorem prune_no_dangling_kwargs (g : IGraph) (id : Nat) (replacement : Option Nat) (hr : replacement ≠ some id) :
    ∀ x ∈ pruneNode g id replacement, ∀ kv ∈ x.n.kwargs, id ∉ kv.2.refs := by
  intro x hx kv hkv
  obtain ⟨y, -, -, rfl⟩ := (mem_prune ..).mp hx
  obtain ⟨kv0, -, rfl⟩ := List.mem_map.mp hkv
  simp only [refs_mapRefs, List.mem_flatMap, mem_subst_refs]
  rintro ⟨i, -, ⟨h, e⟩ | ⟨-, e⟩⟩
  exacts [h e.symm, hr e]

/-- exactly the pruned node disappears; the others keep their ids, in the original order -/
theorem prune_ids (g : IGraph) (id : Nat) (replacement : Option Nat) :
    (pruneNode g id replacement).map (·.id) = (g.map (·.id)).filter (· != id) := by
  rw [pruneNode_eq, List.map_map, List.filter_map]
  rfl

/-- bypass: every occurrence of the removed node in a consumer's arguments — positional, keyword or nested —
    becomes the replacement -/
theorem prune_bypass_arg (id r : Nat) (a : Arg) :
    (a.mapRefs (subst id (some r))).refs = a.refs.map (fun i => if i == id then r else i) := by
  rw [refs_mapRefs, List.map_eq_flatMap]
  congr 1; funext i
  rw [subst_refs_eq]
  by_cases h : i = id <;> simp [h]

/-- selective pruning cuts the edge instead: the reference becomes the literal `None` -/
theorem prune_cut_arg (id : Nat) (a : Arg) :
    (a.mapRefs (subst id none)).refs = a.refs.filter (fun i => !(i == id)) := by
  simp only [refs_mapRefs, subst_refs_eq, Option.toList_none]
  induction a.refs with
  | nil => rfl
  | cons i rest ih => by_cases h : i = id <;> simp [h, ih]

theorem pruneSweep_induction {P : IGraph → Prop} (decide : IGraph → INode → Option (Option Nat)) (g0 : IGraph) (h0 : P g0)
    (hstep : ∀ g id x r, P g → g.get? id = some x → decide g x = some r → P (pruneNode g id r)) :
    P (pruneSweep decide g0) := by
  refine List.foldlRecOn _ _ h0 fun g hg id _ => ?_
  split
  · exact hg
  next x hget =>
    split
    next r hd => exact hstep g id x r hg hget hd
    · exact hg

/-- a sweep only removes nodes: the surviving ids are a sublist of the input's, so the original order is preserved -/
theorem sweep_sublist (decide : IGraph → INode → Option (Option Nat)) (g0 : IGraph) :
    ((pruneSweep decide g0).map (·.id)).Sublist (g0.map (·.id)) :=
  pruneSweep_induction (P := fun g => (g.map (·.id)).Sublist (g0.map (·.id))) decide g0 (List.Sublist.refl _)
    fun g id _ r hg _ _ => prune_ids g id r ▸ List.filter_sublist.trans hg

/-- the copying helpers are functions of their input graph: the input is not modified -/
theorem copying_helpers_pure (g : Graph) (rtol : Float) :
    let _a := pruneNonFloat g; let _b := pruneSameScale rtol g; g = g := rfl

-- the defect scenario `a = x.reshape(..); cat([a, a*2])` with a same-scale reshape
def demo : Graph :=
  [{ op := "placeholder", target := "x", args := [], kwargs := [], outputsFloat := true, fwdMeanAbs := some 1.0 },
   { op := "call_method", target := "reshape", args := [.ref 0, .lit "-1"], kwargs := [], outputsFloat := true, fwdMeanAbs := some 1.0 },
   { op := "call_function", target := "op.mul", args := [.ref 1, .lit "2"], kwargs := [], outputsFloat := true, fwdMeanAbs := some 2.0 },
   { op := "call_function", target := "torch.cat", args := [.seq false [.ref 1, .ref 2]], kwargs := [], outputsFloat := true, fwdMeanAbs := some 1.5 },
   { op := "output", target := "output", args := [.ref 3], kwargs := [] }]

/-- selective pruning of the reshape cuts the edges: `cat([None, mul])`, `mul(None, 2)` -/
example : (pruneSelected ["reshape"] demo).map (fun n => (n.target, Arg.showList n.args)) =
    [("x", ""), ("op.mul", "None, 2"), ("torch.cat", "[None, %1]"), ("output", "%2")] := by decide +kernel

/-- had the reshape been a non-float node, it would be bypassed inside the list argument too -/
example : (pruneNonFloat (demo.set 1 { (demo[1]!) with outputsFloat := false })).map
      (fun n => (n.target, Arg.showList n.args)) =
    [("x", ""), ("op.mul", "%0, 2"), ("torch.cat", "[%0, %1]"), ("output", "%2")] := by decide +kernel

end USProofs.C19
