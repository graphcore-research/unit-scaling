/-
  C13 — integer arithmetic of float32 magnitude patterns.  `fixOf n` is the magnitude of the pattern `n` in units of
  `2^-149` (float32's smallest subnormal).  The two power-of-two scalings of the model and the rounding of its division
  are characterised through it, so that order, injectivity and exactness of `mulPow2` / `divPow2` are integer facts and
  the value-level statements (C13Value) are casts of them.
-/
import USProofs.Properties.C13

open USModel USModel.F32

namespace USProofs.C13

theorem le_expo_iff {e n : ℕ} : e ≤ expo n ↔ e * 2 ^ 23 ≤ n :=
  Nat.le_div_iff_mul_le (Nat.two_pow_pos 23)

theorem expo_lt_iff {e n : ℕ} : expo n < e ↔ n < e * 2 ^ 23 :=
  Nat.div_lt_iff_lt_mul (Nat.two_pow_pos 23)

theorem expo_le_of_lt (n e : ℕ) (h : n < (e + 1) * 2 ^ 23) : expo n ≤ e :=
  Nat.lt_succ_iff.mp (expo_lt_iff.mpr h)

theorem expo_bounds (n : ℕ) : expo n * 2 ^ 23 ≤ n ∧ n < (expo n + 1) * 2 ^ 23 :=
  ⟨le_expo_iff.mp le_rfl, expo_lt_iff.mp (Nat.lt_succ_self _)⟩

theorem expo_mono {a b : ℕ} (h : a ≤ b) : expo a ≤ expo b :=
  Nat.div_le_div_right h

theorem lt_of_expo_lt {a b : ℕ} (h : expo a < expo b) : a < b :=
  Nat.lt_of_div_lt_div h

theorem expo_add (r d : ℕ) : expo (r + d * 2 ^ 23) = expo r + d :=
  Nat.add_mul_div_right r d (Nat.two_pow_pos 23)

theorem expo_sub (n d : ℕ) : expo (n - d * 2 ^ 23) = expo n - d := by
  rw [Nat.mul_comm d]; exact Nat.sub_mul_div n (2 ^ 23) d

theorem mant_eq (n : ℕ) : mant n = n - expo n * 2 ^ 23 :=
  Nat.mod_eq_sub_div_mul

/-- the magnitude in units of `2^-149` -/
def fixOf (n : ℕ) : ℕ := if expo n = 0 then mant n else (2 ^ 23 + mant n) * 2 ^ (expo n - 1)

/-- binades 0 and 1 (subnormals and the first normal binade) are in units of `2^-149` already -/
theorem fixOf_small {q : ℕ} (h : q ≤ 2 ^ 23 + 2 ^ 23) : fixOf q = q := by
  unfold fixOf
  rcases Nat.lt_or_ge q (2 ^ 23) with h0 | h0
  · rw [if_pos (show expo q = 0 from Nat.div_eq_of_lt h0)]; exact Nat.mod_eq_of_lt h0
  rcases Nat.lt_or_eq_of_le h with h1 | rfl
  · have he : expo q = 1 := Nat.div_eq_of_lt_le ((Nat.one_mul _).trans_le h0) (h1.trans_eq (Nat.two_mul _).symm)
    rw [mant_eq, he, if_neg Nat.one_ne_zero, Nat.one_mul, Nat.add_sub_cancel' h0, pow_zero, Nat.mul_one]
  · rfl

theorem fixOf_add_shift {r : ℕ} (h : 1 ≤ expo r) (d : ℕ) : fixOf (r + d * 2 ^ 23) = fixOf r * 2 ^ d := by
  unfold fixOf
  rw [expo_add, show mant (r + d * 2 ^ 23) = mant r from Nat.add_mul_mod_self_right r d _,
    if_neg (Nat.ne_of_gt (Nat.add_pos_left h d)), if_neg (Nat.ne_of_gt h), Nat.mul_assoc, ← pow_add, Nat.sub_add_comm h]

/-- `m = 2^23` is the first pattern of the next binade -/
theorem fixOf_fields {e m : ℕ} (he : 1 ≤ e) (hm : m ≤ 2 ^ 23) : fixOf (e * 2 ^ 23 + m) = (2 ^ 23 + m) * 2 ^ (e - 1) := by
  rw [← fixOf_small (Nat.add_le_add_left hm _),
    ← fixOf_add_shift (le_expo_iff.mpr ((Nat.one_mul _).trans_le (Nat.le_add_right _ m))),
    Nat.add_right_comm, Nat.add_comm (2 ^ 23), ← Nat.succ_mul, Nat.succ_eq_add_one, Nat.sub_add_cancel he]

/-- The first pattern of the next binade is included; with truncated subtraction the formula also covers binade 0,
    which continues binade 1. -/
theorem fixOf_binade (e q : ℕ) (hlo : e * 2 ^ 23 ≤ q) (hhi : q ≤ (e + 1) * 2 ^ 23) :
    fixOf q = (q - (e - 1) * 2 ^ 23) * 2 ^ (e - 1) := by
  cases e with
  | zero =>
    rw [fixOf_small (hhi.trans (Nat.le_add_left _ _)), Nat.zero_sub, Nat.zero_mul, Nat.sub_zero, pow_zero, Nat.mul_one]
  | succ e =>
    obtain ⟨m, rfl⟩ := Nat.exists_eq_add_of_le hlo
    rw [fixOf_fields (Nat.le_add_left 1 e) (Nat.le_of_add_le_add_left (hhi.trans_eq (Nat.succ_mul _ _))), Nat.add_sub_cancel,
      Nat.succ_mul, Nat.add_assoc, Nat.add_sub_cancel_left]

theorem pred_mul_le {e q : ℕ} (hlo : e * 2 ^ 23 ≤ q) : (e - 1) * 2 ^ 23 ≤ q :=
  le_trans (Nat.mul_le_mul_right _ (Nat.sub_le e 1)) hlo

/-- the step `n → n + 1` stays inside the closed binade of `n`, where `fixOf` is linear -/
theorem fixOf_strictMono : StrictMono fixOf := by
  refine strictMono_nat_of_lt_succ fun n => ?_
  obtain ⟨hlo, hhi⟩ := expo_bounds n
  rw [fixOf_binade (expo n) n hlo hhi.le, fixOf_binade (expo n) (n + 1) (Nat.le_succ_of_le hlo) hhi]
  exact Nat.mul_lt_mul_of_pos_right (Nat.sub_lt_sub_right (pred_mul_le hlo) n.lt_succ_self) (Nat.two_pow_pos _)

theorem fixOf_strict {a b : ℕ} (h : a < b) : fixOf a < fixOf b := fixOf_strictMono h

theorem fixOf_lt_iff {a b : ℕ} : fixOf a < fixOf b ↔ a < b := fixOf_strictMono.lt_iff_lt

theorem fixOf_injective {a b : ℕ} (h : fixOf a = fixOf b) : a = b := fixOf_strictMono.injective h

theorem fixOf_binade_start {e : ℕ} (he : 1 ≤ e) : fixOf (e * 2 ^ 23) = 2 ^ 23 * 2 ^ (e - 1) := by
  have := fixOf_fields he (Nat.zero_le _)
  rwa [Nat.add_zero, Nat.add_zero] at this

theorem two_pow_k_dvd_shift (M d : ℕ) : 2 ^ (23 - M) ∣ d * 2 ^ 23 :=
  Nat.dvd_mul_left_of_dvd (Nat.pow_dvd_pow 2 (Nat.sub_le 23 M)) d

/-- both ends of a binade are multiples of the spacing -/
theorem roundCore_binade {k off e q : ℕ} (hk : k ≤ 23) (hoff : off < 2 ^ k) (hlo : e * 2 ^ 23 ≤ q)
    (hhi : q ≤ (e + 1) * 2 ^ 23) : e * 2 ^ 23 ≤ roundCore k off q ∧ roundCore k off q ≤ (e + 1) * 2 ^ 23 :=
  ⟨le_roundCore_of_dvd hoff (Nat.dvd_mul_left_of_dvd (Nat.pow_dvd_pow 2 hk) e) hlo,
    roundCore_le_of_dvd hoff (Nat.dvd_mul_left_of_dvd (Nat.pow_dvd_pow 2 hk) (e + 1)) hhi⟩

/-- the two multiples of `2^k` enclosing a pattern of binade `e` stay inside that binade (end-point included): both ends
    of the binade are multiples of `2^k`, and dividing by `2^k` and multiplying back is monotone and fixes them -/
theorem enclosing_in_binade (k e q : ℕ) (hk : k ≤ 23) (hlo : e * 2 ^ 23 ≤ q) (hhi : q < (e + 1) * 2 ^ 23) :
    e * 2 ^ 23 ≤ q / 2 ^ k * 2 ^ k ∧ (q / 2 ^ k + 1) * 2 ^ k ≤ (e + 1) * 2 ^ 23 :=
  have hd : ∀ x, 2 ^ k ∣ x * 2 ^ 23 := Nat.dvd_mul_left_of_dvd (Nat.pow_dvd_pow 2 hk)
  ⟨(Nat.div_mul_cancel (hd e)).symm.trans_le (Nat.mul_le_mul_right _ (Nat.div_le_div_right hlo)),
    (Nat.mul_le_mul_right _ (Nat.div_lt_div_of_lt_of_dvd (hd _) hhi)).trans_eq (Nat.div_mul_cancel (hd _))⟩

/-- of the two ends of an interval of length `P`, one that is within `P/2` of `q` is at least as near as the other -/
theorem nearer_end {P lo q r : ℕ} (hq : lo ≤ q) (hq' : q < lo + P) (hr : r = lo ∨ r = lo + P)
    (h1 : r ≤ q + P / 2) (h2 : q ≤ r + P / 2) :
    (r ≤ q + (q - lo) ∧ q ≤ r + (q - lo)) ∧ r ≤ q + (lo + P - q) ∧ q ≤ r + (lo + P - q) := by
  omega

theorem expo_le_roundCore {k off : ℕ} (n : ℕ) (hk : k ≤ 23) (hoff : off < 2 ^ k) : expo n ≤ expo (roundCore k off n) :=
  le_expo_iff.mpr (roundCore_binade hk hoff (expo_bounds n).1 (expo_bounds n).2.le).1

/-- `expo r + d < 255`: the result does not overflow to infinity -/
theorem fixOf_mulPow2 : ∀ (d r : ℕ), expo r + d < 255 → fixOf (mulPow2 r d) = fixOf r * 2 ^ d
  | 0, r, _ => by rw [mulPow2, pow_zero, Nat.mul_one]
  | d + 1, r, h => by
    rw [mulPow2]
    by_cases h0 : r = 0
    · rw [if_pos h0, h0]; exact (Nat.zero_mul _).symm
    by_cases he : expo r = 0
    · -- a float32-subnormal pattern is doubled: `r` and `2r` are below `2^24`, where `fixOf` is the identity
      have hr : r < 2 ^ 23 := Nat.lt_of_div_eq_zero (Nat.two_pow_pos 23) he
      have h2 : expo (2 * r) ≤ 1 := expo_le_of_lt _ 1 (Nat.mul_lt_mul_of_pos_left hr Nat.two_pos)
      rw [he, Nat.zero_add, Nat.add_comm] at h
      rw [if_neg h0, if_pos he, fixOf_mulPow2 d (2 * r) ((Nat.add_le_add_right h2 d).trans_lt h),
        fixOf_small ((Nat.mul_le_mul_left 2 hr.le).trans_eq (Nat.two_mul _)),
        fixOf_small (hr.le.trans (Nat.le_add_left _ _)), pow_succ', Nat.mul_comm 2 r, Nat.mul_assoc]
    · rw [if_neg h0, if_neg he, if_neg (Nat.not_le.mpr h)]
      exact fixOf_add_shift (Nat.pos_of_ne_zero he) (d + 1)

theorem mulPow2_strict : ∀ (d r r' : ℕ), r < r' → expo r' + d < 255 → mulPow2 r d < mulPow2 r' d := by
  intro d r r' h hov
  rw [← fixOf_lt_iff, fixOf_mulPow2 d r ((Nat.add_le_add_right (expo_mono h.le) d).trans_lt hov), fixOf_mulPow2 d r' hov]
  exact Nat.mul_lt_mul_of_pos_right (fixOf_strict h) (Nat.two_pow_pos d)

theorem mulPow2_mono : ∀ (d r r' : ℕ), r ≤ r' → expo r' + d < 255 → mulPow2 r d ≤ mulPow2 r' d := by
  intro d r r' h hov
  rcases h.lt_or_eq with h | rfl
  · exact (mulPow2_strict d r r' h hov).le
  · exact le_rfl

theorem mulPow2_ne_iff (d r r' : ℕ) (h1 : expo r + d < 255) (h2 : expo r' + d < 255) :
    (mulPow2 r d != mulPow2 r' d) = (r != r') := by
  rw [Bool.eq_iff_iff, bne_iff_ne, bne_iff_ne]
  refine not_congr ⟨fun e => fixOf_injective (Nat.eq_of_mul_eq_mul_right (Nat.two_pow_pos d) ?_), fun e => e ▸ rfl⟩
  rw [← fixOf_mulPow2 d r h1, ← fixOf_mulPow2 d r' h2, e]

theorem rneShift_zero (x : ℕ) : rneShift x 0 = x := if_pos rfl

/-- `rneShift` with its three-way test as one: round up iff the remainder plus the last bit of the quotient exceeds half
    (for `sh = 0` there is no remainder) -/
theorem rneShift_eq (x sh : ℕ) :
    rneShift x sh = x / 2 ^ sh + if 2 ^ (sh - 1) < x % 2 ^ sh + x / 2 ^ sh % 2 then 1 else 0 := by
  have hb : x / 2 ^ sh % 2 ≤ 1 := Nat.le_of_lt_succ (Nat.mod_lt _ Nat.two_pos)
  rcases Nat.eq_zero_or_pos sh with rfl | h
  · rw [pow_zero, Nat.div_one] at hb
    rw [rneShift_zero, pow_zero, Nat.div_one, Nat.mod_one, Nat.zero_add, if_neg (Nat.not_lt.mpr hb), Nat.add_zero]
  simp only [rneShift, if_neg h.ne', gt_iff_lt]
  generalize x / 2 ^ sh % 2 = b at *
  generalize x % 2 ^ sh = r
  rcases Nat.lt_trichotomy r (2 ^ (sh - 1)) with h1 | rfl | h1
  · rw [if_neg h1.asymm, if_pos h1, if_neg (Nat.not_lt.mpr ((Nat.add_le_add_left hb r).trans h1)), Nat.add_zero]
  · simp only [Nat.lt_irrefl, if_false, Nat.lt_add_right_iff_pos]
    -- the tie: with the last bit `0` or `1` both sides are closed terms
    obtain rfl | rfl := Nat.le_one_iff_eq_zero_or_eq_one.mp hb
    · rfl
    · rfl
  · rw [if_pos h1, if_pos (Nat.lt_add_right b h1)]

theorem rneShift_le (x sh : ℕ) : rneShift x sh ≤ x / 2 ^ sh + 1 := by
  rw [rneShift_eq]
  split_ifs
  · exact le_rfl
  · exact Nat.le_succ _

theorem rneShift_ge (x sh : ℕ) : x / 2 ^ sh ≤ rneShift x sh :=
  rneShift_eq x sh ▸ Nat.le_add_right _ _

theorem rneShift_near (x sh : ℕ) (hsh : 1 ≤ sh) :
    rneShift x sh * 2 ^ sh ≤ x + 2 ^ (sh - 1) ∧ x ≤ rneShift x sh * 2 ^ sh + 2 ^ (sh - 1) := by
  have hb : x / 2 ^ sh % 2 ≤ 1 := Nat.le_of_lt_succ (Nat.mod_lt _ Nat.two_pos)
  have hr := Nat.mod_lt x (Nat.two_pow_pos sh)
  have hdm := Nat.div_add_mod' x (2 ^ sh)
  rw [rneShift_eq, Nat.add_mul]
  generalize x / 2 ^ sh * 2 ^ sh = a at hdm ⊢
  generalize x / 2 ^ sh % 2 = b at *
  generalize x % 2 ^ sh = r at *
  subst hdm
  rw [← Nat.two_pow_pred_add_two_pow_pred hsh] at hr ⊢
  -- up only if the remainder is at least half, down only if it is at most half
  split_ifs with hu
  · have : 2 ^ (sh - 1) ≤ r := Nat.le_of_lt_succ (hu.trans_le (Nat.add_le_add_left hb r))
    rw [Nat.one_mul, Nat.add_assoc a r]
    exact ⟨Nat.add_le_add_left (Nat.add_le_add_right this _) a, Nat.le_add_right_of_le (Nat.add_le_add_left hr.le a)⟩
  · have : r ≤ 2 ^ (sh - 1) := (Nat.le_add_right r b).trans (Nat.le_of_not_lt hu)
    rw [Nat.zero_mul, Nat.add_zero]
    exact ⟨Nat.le_add_right_of_le (Nat.le_add_right a r), Nat.add_le_add_left this a⟩

theorem rneShift_mono (sh x x' : ℕ) (h : x ≤ x') : rneShift x sh ≤ rneShift x' sh := by
  rcases Nat.lt_or_eq_of_le (Nat.div_le_div_right (c := 2 ^ sh) h) with hlt | heq
  · exact le_trans (rneShift_le x sh) (le_trans hlt (rneShift_ge x' sh))
  · -- same quotient, hence same last bit: only the remainders differ
    rw [← Nat.div_add_mod x (2 ^ sh), ← Nat.div_add_mod x' (2 ^ sh), heq] at h
    have hr := Nat.add_le_add_right (Nat.le_of_add_le_add_left h) (x' / 2 ^ sh % 2)
    rw [rneShift_eq x, rneShift_eq x', heq]
    refine Nat.add_le_add_left ?_ _
    split_ifs with h1 h2
    · exact le_rfl
    · exact absurd (h1.trans_le hr) h2
    · exact Nat.zero_le _
    · exact le_rfl

theorem rneShift_scale (x sh j : ℕ) (hsh : 1 ≤ sh) : rneShift (x * 2 ^ j) (sh + j) = rneShift x sh := by
  -- quotient and its parity are unchanged, remainder and half both scale by `2^j`: every comparison is the same
  have hJ := Nat.two_pow_pos j
  simp only [rneShift, if_neg (Nat.ne_of_gt hsh), if_neg (Nat.ne_of_gt (Nat.le_add_right_of_le hsh)), pow_add,
    Nat.mul_div_mul_right _ _ hJ, Nat.mul_mod_mul_right, Nat.sub_add_comm hsh, gt_iff_lt,
    Nat.mul_lt_mul_right hJ]

theorem rneShift_exact (x sh : ℕ) (h : 2 ^ sh ∣ x) : rneShift x sh = x / 2 ^ sh := by
  rw [rneShift_eq, Nat.mod_eq_zero_of_dvd h, Nat.zero_add, if_neg, Nat.add_zero]
  exact Nat.not_lt.mpr ((Nat.le_of_lt_succ (Nat.mod_lt _ Nat.two_pos)).trans (Nat.two_pow_pos _))

theorem rneShift_mul (x sh : ℕ) : rneShift (x * 2 ^ sh) sh = x := by
  rw [rneShift_exact _ _ (Nat.dvd_mul_left _ _), Nat.mul_div_cancel _ (Nat.two_pow_pos sh)]

theorem divPow2_high {n d : ℕ} (h : d < expo n) : divPow2 n d = n - d * 2 ^ 23 := by
  simp only [divPow2, gt_iff_lt, if_pos h]

/-- exact while the quotient is a normal float32 … -/
theorem fixOf_divPow2_high {n d : ℕ} (h : d < expo n) : fixOf (divPow2 n d) * 2 ^ d = fixOf n := by
  rw [divPow2_high h, ← fixOf_add_shift (expo_sub n d ▸ Nat.sub_pos_of_lt h), Nat.sub_add_cancel (le_expo_iff.mp h.le)]

/-- … and below that threshold one correct rounding of the exact quotient to float32's subnormal grid -/
theorem divPow2_low (n d : ℕ) (h : expo n ≤ d) : divPow2 n d = rneShift (fixOf n) d := by
  simp only [divPow2, gt_iff_lt, if_neg (Nat.not_lt.mpr h), fixOf]
  split_ifs with he
  · rw [Nat.add_sub_cancel]
  · rw [← rneShift_scale _ (d + 1 - expo n) (expo n - 1) (Nat.sub_pos_of_lt (Nat.lt_succ_of_le h)),
      Nat.sub_add_sub_cancel (Nat.le_succ_of_le h) (Nat.pos_of_ne_zero he)]
    rfl  -- `d + 1 - 1` reduces to `d`

theorem fixOf_lt_of_expo_le {n d : ℕ} (h : expo n ≤ d) : fixOf n < 2 ^ 23 * 2 ^ d := by
  rw [← Nat.add_sub_cancel (n := d) (m := 1), ← fixOf_binade_start (Nat.succ_pos d), fixOf_lt_iff]
  exact expo_lt_iff.mp (Nat.lt_succ_of_le h)

theorem divPow2_low_le (n d : ℕ) (h : expo n ≤ d) : divPow2 n d ≤ 2 ^ 23 := by
  rw [divPow2_low n d h]
  refine le_trans (rneShift_le _ _) (Nat.succ_le_of_lt ((Nat.div_lt_iff_lt_mul (Nat.two_pow_pos d)).mpr ?_))
  exact fixOf_lt_of_expo_le h

/-- `divPow2` is the exact quotient rounded to nearest-even on float32's grid, in every range: while the quotient is
    normal there is nothing to round, below that the rounded quotient is a pattern in units of `2^-149` -/
theorem fixOf_divPow2 (n d : ℕ) : fixOf (divPow2 n d) = rneShift (fixOf n) d := by
  by_cases h : d < expo n
  · rw [← fixOf_divPow2_high h, rneShift_mul]
  · have hlow := Nat.le_of_not_lt h
    rw [← divPow2_low n d hlow]
    exact fixOf_small ((divPow2_low_le n d hlow).trans (Nat.le_add_left _ _))

theorem divPow2_mono (d n n' : ℕ) (hd : 1 ≤ d) (h : n ≤ n') : divPow2 n d ≤ divPow2 n' d := by
  rw [← fixOf_strictMono.le_iff_le, fixOf_divPow2, fixOf_divPow2]
  exact rneShift_mono d _ _ (fixOf_strictMono.monotone h)

/-- scaling up is exact, so scaling down again rounds nothing -/
theorem divPow2_mulPow2 {r d : ℕ} (h : expo r + d < 255) : divPow2 (mulPow2 r d) d = r :=
  fixOf_injective (by rw [fixOf_divPow2, fixOf_mulPow2 d r h, rneShift_mul])

theorem expo_absmax (E M : ℕ) (hM : M ≤ 23) : expo (absmaxBits E M) = 2 ^ (E - 1) - 1 + 127 := by
  have hlt : (2 ^ M - 1) * 2 ^ (23 - M) < 2 ^ 23 := by
    rw [← pow_mul_pow_sub 2 hM]
    exact Nat.mul_lt_mul_of_pos_right (Nat.sub_lt (Nat.two_pow_pos M) Nat.one_pos) (Nat.two_pow_pos _)
  unfold absmaxBits expo
  rw [Nat.add_comm, Nat.add_mul_div_right _ _ (Nat.two_pow_pos 23), Nat.div_eq_of_lt hlt, Nat.zero_add]

theorem le_absmax_of_expo_lt {E M n : ℕ} (h : expo n < 2 ^ (E - 1) - 1 + 127) : n ≤ absmaxBits E M :=
  (expo_lt_iff.mp h).le.trans (Nat.le_add_right _ _)

/-- `253 = (127 - 1) + 127` -/
theorem expo_absmax_le {E M : ℕ} (hB : 2 ^ (E - 1) ≤ 127) (hM : M ≤ 23) : expo (absmaxBits E M) ≤ 253 :=
  (expo_absmax E M hM).trans_le (Nat.add_le_add_right (Nat.sub_le_sub_right hB 1) 127)

theorem absmax_lt {E M : ℕ} (hB : 2 ^ (E - 1) ≤ 127) (hM : M ≤ 23) : absmaxBits E M < 2 ^ 31 :=
  (expo_lt_iff.mp (Nat.lt_succ_of_le (expo_absmax_le hB hM))).trans_le (by decide)

theorem absmax_facts (E M : ℕ) (hM : M ≤ 23) :
    2 ^ (23 - M) ∣ absmaxBits E M ∧ 127 - 2 ^ (E - 1) < expo (absmaxBits E M) := by
  refine ⟨Nat.dvd_add (two_pow_k_dvd_shift M _) (Nat.dvd_mul_left _ _), ?_⟩
  rw [expo_absmax E M hM]
  exact Nat.lt_of_lt_of_le (Nat.sub_lt (by decide) (Nat.two_pow_pos (E - 1))) (Nat.le_add_left _ _)

end USProofs.C13
