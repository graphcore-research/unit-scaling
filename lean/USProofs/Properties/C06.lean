/-
  C06 — residual split/add: normalised mix, delayed branch scaling, true input gradient.

  Model: `residualSplit`, `residualAdd`, `onFirst`, `residualApply`, `residualStack` (`USModel/Autograd.lean`) and
  `residualWeights` (`USModel/Scales.lean`).  The branch is an arbitrary `f : DOp V V`; `V` any real inner-product space.
-/
import USProofs.RealInst
import USProofs.TrueGrad
import USProofs.Properties.C03Residual

open USModel

namespace USProofs.C06

section algebra
variable {V : Type} [AddCommGroup V] [Module ℝ V]

theorem apply_eq_split_add (wr ws : ℝ) (f : DOp V V) :
    residualApply wr ws f = (residualAdd wr ws).comp ((onFirst f).comp (residualSplit wr ws)) := rfl

theorem apply_fwd (wr ws : ℝ) (f : DOp V V) (x : V) :
    (residualApply wr ws f).fwd x = wr • f.fwd x + ws • x := rfl

/-- Inside the branch the upstream gradient arrives unattenuated: `residual_add` hands `g` itself to
    both of its inputs (the weights act in the forward pass only). -/
theorem branch_grad_unattenuated (wr ws : ℝ) (x : V × V) (g : V) :
    (residualAdd wr ws).vjp x g = (g, g) := rfl

/-- …and the tau weighting is applied to the gradient where the branch rejoins `x`. -/
theorem split_vjp (wr ws : ℝ) (x : V) (g : V × V) :
    (residualSplit wr ws).vjp x g = wr • g.1 + ws • g.2 := rfl

theorem apply_vjp (wr ws : ℝ) (f : DOp V V) (x g : V) :
    (residualApply wr ws f).vjp x g = wr • f.vjp x g + ws • g := rfl

theorem apply_fwd_tau (tau : ℝ) (f : DOp V V) (x : V) :
    (residualApply (residualWeights tau).1 (residualWeights tau).2 f).fwd x
      = (1 / Real.sqrt (1 + tau ^ 2)) • (x + tau • f.fwd x) := by
  rw [apply_fwd, C03.residualWeights_eq, ← pow_two, smul_add, smul_smul, one_div_mul_eq_div, add_comm]

theorem weights_sq (tau : ℝ) : (residualWeights tau).1 ^ 2 + (residualWeights tau).2 ^ 2 = 1 := by
  simpa only [mul_one] using C03.residual_unit_scale tau
end algebra

section truegrad
variable {V : Type} [NormedAddCommGroup V] [InnerProductSpace ℝ V]

/-- If the branch is a true-gradient pair at `x`, the gradient the
    residual layer delivers to `x` is exactly the derivative of `wr • f(x) + ws • x`. -/
theorem apply_true_grad (wr ws : ℝ) (f : DOp V V) (x : V) (hf : DOp.TrueAt f x) :
    DOp.TrueAt (residualApply wr ws f) x :=
  -- the layer unfolds to `⟨fun y => wr • f.fwd y + ws • y, fun y g => wr • f.vjp y g + ws • g⟩`
  (IsVJPAt.const_smul hf wr).add ((IsVJPAt.id x).const_smul ws)

theorem comp_true {f g : DOp V V} {x : V} (hf : DOp.TrueAt f x) (hg : DOp.TrueAt g (f.fwd x)) :
    DOp.TrueAt (g.comp f) x := by
  unfold DOp.TrueAt at *
  exact hf.comp hg

/-- Stacks of any depth, sequential: if every branch is a true-gradient pair everywhere, so is
    the whole stack (nesting is covered because a branch is itself an arbitrary `DOp`, e.g. another
    stack). -/
theorem stack_true_grad (layers : List (ℝ × ℝ × DOp V V))
    (h : ∀ l ∈ layers, ∀ x, DOp.TrueAt l.2.2 x) : ∀ x, DOp.TrueAt (residualStack layers) x := by
  induction layers with
  | nil => exact IsVJPAt.id
  | cons l rest ih =>
    exact fun x => comp_true (apply_true_grad _ _ _ x (h l (.head _) x))
      (ih (fun l hl => h l (.tail _ hl)) _)
end truegrad

section stackform
variable {V : Type} [AddCommGroup V] [Module ℝ V]
theorem stack_cons_fwd (wr ws : ℝ) (f : DOp V V) (rest : List (ℝ × ℝ × DOp V V)) (x : V) :
    (residualStack ((wr, ws, f) :: rest)).fwd x = (residualStack rest).fwd (wr • f.fwd x + ws • x) := rfl
theorem stack_cons_vjp (wr ws : ℝ) (f : DOp V V) (rest : List (ℝ × ℝ × DOp V V)) (x g : V) :
    (residualStack ((wr, ws, f) :: rest)).vjp x g =
      (let g' := (residualStack rest).vjp (wr • f.fwd x + ws • x) g
       wr • f.vjp x g' + ws • g') := rfl
end stackform

example (x : ℝ) : DOp.TrueAt (DOp.idOp : DOp ℝ ℝ) x := IsVJPAt.id x

end USProofs.C06
