/-
  C20 — a whole unit-scaled function under plain fx tracing: `scale_fwd(F(scale_bwd(x, b)), f)` is recorded as
  `f * F(1 * x)`; autograd of that graph gives the forward values of the eager function but sends the forward factor
  `f` backwards into `F` and loses the backward-only factor `b` entirely.
-/
import USModel.Autograd

open USModel

namespace USProofs.C20

variable {A Y : Type} [SMul Float A] [SMul Float Y]

/-- what plain `torch.fx.symbolic_trace` records for a unit-scaled function of one tensor -/
def fxScaled1 (f : Float) (F : DOp A Y) : DOp A Y :=
  (fxTracedScale f).comp (F.comp (fxTracedScale 1.0))

/-- `h1`: multiplication by 1.0 is the identity on tensors -/
theorem fx_composite_forward (f b : Float) (F : DOp A Y) (x : A) (h1 : ∀ v : A, (1.0 : Float) • v = v) :
    (fxScaled1 f F).fwd x = (scaled1 f b F).fwd x := by
  show f • F.fwd ((1.0 : Float) • x) = f • F.fwd x
  rw [h1]

theorem fx_composite_backward (f b : Float) (F : DOp A Y) (x : A) (g : Y) (h1 : ∀ v : A, (1.0 : Float) • v = v) :
    (fxScaled1 f F).vjp x g = F.vjp x (f • g) ∧ (scaled1 f b F).vjp x g = b • F.vjp x g := by
  constructor
  · show (1.0 : Float) • F.vjp ((1.0 : Float) • x) (f • g) = F.vjp x (f • g)
    rw [h1, h1]
  · rfl

end USProofs.C20
