/-
  C05 — a constraint collapses forward and backward scales to one value (what that buys, true gradients, is
  C05TrueGrad.lean).  `applyConstraint` and the means as C01, C03 and C12 use them.

  Model: `USModel/Constraints.lean` (`applyConstraint`, `gmean`, `hmean`, `amean`, selectors), `USModel/Scales.lean` (per-op
  use of the constraint).
-/
import USProofs.RealInst
import Mathlib.Analysis.MeanInequalities
import Mathlib.Algebra.BigOperators.Fin

open USModel

namespace USProofs.C05

theorem apply_none (l : List ℝ) : applyConstraint none l = .ok l := rfl
theorem apply_empty (l : List ℝ) : applyConstraint (some "") l = .ok l := rfl

theorem apply_some {n : String} (hn : n ≠ "") (l : List ℝ) :
    applyConstraint (some n) l = constraintFn n l >>= fun s => pure (l.map fun _ => s) := by
  unfold applyConstraint
  split
  · contradiction
  · rename_i h; cases h; exact absurd rfl hn
  · rename_i h; cases h; rfl

theorem apply_rule (n : String) (hn : n ≠ "") (l : List ℝ) (s : ℝ)
    (h : constraintFn n l = .ok s) :
    applyConstraint (some n) l = .ok (List.replicate l.length s) := by
  rw [apply_some hn, h]; exact congrArg Except.ok (List.map_const' ..)

theorem apply_error (n : String) (hn : n ≠ "") (l : List ℝ) (e : Err)
    (h : constraintFn n l = .error e) : applyConstraint (some n) l = .error e := by
  rw [apply_some hn, h]; rfl

theorem applyConstraint_ok {c : Option String} {l l' : List ℝ} (h : applyConstraint c l = .ok l') :
    l' = l ∨ ∃ n s, constraintFn n l = .ok s ∧ l' = List.replicate l.length s := by
  rcases c with _ | n
  · exact .inl (Except.ok.inj h).symm
  · by_cases hn : n = ""
    · subst hn; exact .inl (Except.ok.inj h).symm
    · cases hs : constraintFn n l with
      | error e => rw [apply_error n hn l e hs] at h; cases h
      | ok s => rw [apply_rule n hn l s hs] at h; exact .inr ⟨n, s, hs, (Except.ok.inj h).symm⟩

theorem apply_unknown (n : String) (hn : n ∉ constraintNames) (hne : n ≠ "") (l : List ℝ) :
    applyConstraint (some n) l = .error .valueError := by
  apply apply_error n hne
  unfold constraintFn
  split
  rotate_right
  · rfl  -- the catch-all arm comes last
  -- in a named arm `n` has become that name, and `constraintNames` lists it
  all_goals exact absurd (by simp only [constraintNames, List.mem_cons, true_or, or_true]) hn

/-- The list is the output scale, then the input-gradient scales in argument order. -/
theorem to_output_scale_spec (o : ℝ) (gs : List ℝ) : constraintFn "to_output_scale" (o :: gs) = .ok o := by
  simp only [constraintFn]
theorem to_grad_input_scale_spec (o g : ℝ) : constraintFn "to_grad_input_scale" [o, g] = .ok g := by
  simp only [constraintFn]
theorem to_left_grad_scale_spec (o l r : ℝ) : constraintFn "to_left_grad_scale" [o, l, r] = .ok l := by
  simp only [constraintFn]
theorem to_right_grad_scale_spec (o l r : ℝ) : constraintFn "to_right_grad_scale" [o, l, r] = .ok r := by
  simp only [constraintFn]

theorem constraintFn_ok {n : String} {l : List ℝ} {s : ℝ} (h : constraintFn n l = .ok s) :
    s ∈ l ∨ l ≠ [] ∧ (s = gmean l ∨ s = hmean l ∨ s = amean l) := by
  unfold constraintFn at h
  split at h
  rotate_right
  · cases h  -- the catch-all arm comes last, and is an error
  -- a named arm tests `l`; where the test fails the result is an error as well
  all_goals split at h <;> cases h
  -- `s` is a mean of an `l` that is not empty, or stands in the list pattern `l` matched
  all_goals simp_all

theorem sumL_eq (l : List ℝ) : sumL l = l.sum := by
  simp only [sumL, List.sum_eq_foldl, Nat.cast_zero]
theorem prodL_eq (l : List ℝ) : prodL l = l.prod := by
  simp only [prodL, List.prod_eq_foldl, Nat.cast_one]

theorem amean_eq (l : List ℝ) : amean l = l.sum / l.length := by rw [amean, sumL_eq]
theorem gmean_eq (l : List ℝ) : gmean l = l.prod ^ ((1 : ℝ) / l.length) := by
  rw [gmean, prodL_eq, transc_pow, Nat.cast_one]
/-- What is proved of `hmean` below is what is proved of `amean`, for the list of reciprocals. -/
theorem hmean_eq (l : List ℝ) : hmean l = 1 / amean (l.map fun s => 1 / s) := by
  rw [hmean, amean, List.length_map, Nat.cast_one]

theorem amean_perm {l l' : List ℝ} (h : l.Perm l') : amean l = amean l' := by
  rw [amean_eq, amean_eq, h.sum_eq, h.length_eq]
theorem gmean_perm {l l' : List ℝ} (h : l.Perm l') : gmean l = gmean l' := by
  rw [gmean_eq, gmean_eq, h.prod_eq, h.length_eq]
theorem hmean_perm {l l' : List ℝ} (h : l.Perm l') : hmean l = hmean l' := by
  rw [hmean_eq, hmean_eq, amean_perm (h.map _)]

theorem map_recip_ne_nil {l : List ℝ} (hne : l ≠ []) : (l.map fun s => 1 / s) ≠ [] := by
  rwa [Ne, List.map_eq_nil_iff]

theorem map_recip_pos {l : List ℝ} (hpos : ∀ s ∈ l, 0 < s) : ∀ s ∈ l.map fun s => 1 / s, 0 < s :=
  List.forall_mem_map.2 fun s hs => one_div_pos.2 (hpos s hs)

theorem gmean_recip {l : List ℝ} (hpos : ∀ s ∈ l, 0 < s) :
    gmean (l.map fun s => 1 / s) = 1 / gmean l := by
  simp only [gmean_eq, List.length_map, one_div (_ : ℝ)]
  rw [← List.prod_inv, Real.inv_rpow (List.prod_pos hpos).le]

theorem gmean_pos {l : List ℝ} (hpos : ∀ s ∈ l, 0 < s) : 0 < gmean l := by
  rw [gmean_eq]
  exact Real.rpow_pos_of_pos (List.prod_pos hpos) _

theorem cast_length_pos {l : List ℝ} (hne : l ≠ []) : (0 : ℝ) < l.length :=
  Nat.cast_pos.2 (List.length_pos_iff.mpr hne)

theorem amean_pos {l : List ℝ} (hpos : ∀ s ∈ l, 0 < s) (hne : l ≠ []) : 0 < amean l := by
  rw [amean_eq]
  exact div_pos (List.sum_pos l hpos hne) (cast_length_pos hne)

theorem hmean_pos {l : List ℝ} (hpos : ∀ s ∈ l, 0 < s) (hne : l ≠ []) : 0 < hmean l := by
  rw [hmean_eq]
  exact one_div_pos.2 (amean_pos (map_recip_pos hpos) (map_recip_ne_nil hne))

theorem gmean_le_amean (l : List ℝ) (hpos : ∀ s ∈ l, 0 < s) (hne : l ≠ []) :
    gmean l ≤ amean l := by
  -- Mathlib's inequality is over a `Finset`: index the list by `Fin l.length`, all weights 1
  have h := Real.geom_mean_le_arith_mean (Finset.univ : Finset (Fin l.length)) (fun _ => (1 : ℝ))
    (fun i => l[i.1]) (fun _ _ => zero_le_one)
    (by simpa only [Finset.sum_const, Finset.card_univ, Fintype.card_fin, nsmul_one]
      using cast_length_pos hne)
    (fun i _ => (hpos _ (List.getElem_mem i.2)).le)
  simp only [Real.rpow_one, one_mul, Finset.sum_const, Finset.card_univ, Fintype.card_fin,
    nsmul_one, Fin.sum_univ_getElem, Fin.prod_univ_getElem] at h
  rwa [gmean_eq, amean_eq, one_div]

theorem hmean_le_gmean (l : List ℝ) (hpos : ∀ s ∈ l, 0 < s) (hne : l ≠ []) :
    hmean l ≤ gmean l := by
  have h := gmean_le_amean _ (map_recip_pos hpos) (map_recip_ne_nil hne)
  rw [gmean_recip hpos] at h
  rw [hmean_eq]
  exact (one_div_le (amean_pos (map_recip_pos hpos) (map_recip_ne_nil hne)) (gmean_pos hpos)).2 h

theorem amean_le_max (l : List ℝ) (hi : ℝ) (h : ∀ s ∈ l, s ≤ hi) (hne : l ≠ []) :
    amean l ≤ hi := by
  rw [amean_eq, div_le_iff₀ (cast_length_pos hne), mul_comm, ← nsmul_eq_mul]
  exact List.sum_le_card_nsmul l hi h

theorem min_le_hmean (l : List ℝ) (lo : ℝ) (hlo : 0 < lo) (h : ∀ s ∈ l, lo ≤ s) (hne : l ≠ []) :
    lo ≤ hmean l := by
  have hpos : ∀ s ∈ l, 0 < s := fun s hs => hlo.trans_le (h s hs)
  rw [hmean_eq, le_one_div hlo (amean_pos (map_recip_pos hpos) (map_recip_ne_nil hne))]
  exact amean_le_max _ _ (List.forall_mem_map.2 fun s hs => one_div_le_one_div_of_le hlo (h s hs))
    (map_recip_ne_nil hne)

/-- The mean rules lie between the smallest and largest scale and are ordered harmonic ≤ geometric ≤ arithmetic (any
    number n ≥ 1 of positive scales). -/
theorem means_ordered_and_bounded (l : List ℝ) (lo hi : ℝ) (hlo : 0 < lo)
    (h : ∀ s ∈ l, lo ≤ s ∧ s ≤ hi) (hne : l ≠ []) :
    lo ≤ hmean l ∧ hmean l ≤ gmean l ∧ gmean l ≤ amean l ∧ amean l ≤ hi := by
  have hpos : ∀ s ∈ l, 0 < s := fun s hs => lt_of_lt_of_le hlo (h s hs).1
  exact ⟨min_le_hmean l lo hlo (fun s hs => (h s hs).1) hne, hmean_le_gmean l hpos hne,
    gmean_le_amean l hpos hne, amean_le_max l hi (fun s hs => (h s hs).2) hne⟩

/-! Every op that takes a constraint passes its ideal scales through `applyConstraint` and rebuilds
  its result from the returned list.  `*_ok` reads that list off a successful result (for any
  constraint); `*_unconstrained` / `*_constrained` compute the result for `None` / a named rule. -/

theorem elementwise_ok {c : Option String} {out gin : ℝ} {s : OpScales ℝ}
    (h : elementwise c out gin = .ok s) : applyConstraint c [out, gin] = .ok (s.fwd :: s.bwd) := by
  unfold elementwise at h
  obtain ⟨l', hl', h⟩ := except_bind_eq_ok.1 h
  split at h <;> cases h
  exact hl'

/-- elementwise ops (gelu, silu, softmax): with a named rule both scales equal its value -/
theorem elementwise_constrained (n : String) (hn : n ≠ "") (out gin s : ℝ)
    (h : constraintFn n [out, gin] = .ok s) :
    elementwise (some n) out gin = .ok ⟨s, [s]⟩ := by
  simp only [elementwise, apply_rule n hn _ s h]
  rfl

theorem elementwise_unconstrained (out gin : ℝ) : elementwise none out gin = .ok ⟨out, [gin]⟩ := rfl

theorem linear_ok {c : Option String} {fo fi numel : ℕ} {sp0 sp1 sp2 : ℝ} {s : OpScales ℝ}
    (h : linearScales fo fi numel sp0 sp1 sp2 c = .ok s) :
    ∃ g, applyConstraint c [1 / (fi : ℝ) ^ sp0, 1 / (fo : ℝ) ^ sp1] = .ok [s.fwd, g] ∧
      s.bwd = [g, 1 / ((numel / fi : ℕ) : ℝ) ^ sp2, 1 / ((numel / fi : ℕ) : ℝ) ^ sp2] := by
  simp only [linearScales, real_model] at h
  obtain ⟨l', hl', h⟩ := except_bind_eq_ok.1 h
  split at h <;> cases h
  exact ⟨_, hl', rfl⟩

/-- `linear` / `linear_readout` / `conv1d`: output and input-gradient scale collapse to the rule's
    value; weight and bias gradient scales are unaffected. -/
theorem linear_constrained (n : String) (hn : n ≠ "") (fo fi numel : ℕ) (sp0 sp1 sp2 s : ℝ)
    (h : constraintFn n [1 / (fi : ℝ) ^ sp0, 1 / (fo : ℝ) ^ sp1] = .ok s) :
    linearScales fo fi numel sp0 sp1 sp2 (some n)
      = .ok ⟨s, [s, 1 / ((numel / fi : ℕ) : ℝ) ^ sp2, 1 / ((numel / fi : ℕ) : ℝ) ^ sp2]⟩ := by
  simp only [linearScales, real_model, apply_rule n hn _ s h]
  rfl

theorem linear_unconstrained (fo fi numel : ℕ) (sp0 sp1 sp2 : ℝ) :
    linearScales fo fi numel sp0 sp1 sp2 none
      = .ok ⟨1 / (fi : ℝ) ^ sp0,
             [1 / (fo : ℝ) ^ sp1, 1 / ((numel / fi : ℕ) : ℝ) ^ sp2, 1 / ((numel / fi : ℕ) : ℝ) ^ sp2]⟩ := by
  simp only [linearScales, apply_none, real_model]

theorem conv1d_unconstrained (fo fi k seq lead stride pad dil groups : ℕ) (sp0 sp1 sp2 : ℝ) :
    conv1dScales fo fi k seq lead stride pad dil groups sp0 sp1 sp2 none
      = .ok ⟨1 / ((fi * k : ℕ) : ℝ) ^ sp0,
             [(((stride * groups : ℕ) : ℝ) / ((fo * k : ℕ) : ℝ)) ^ sp1,
              1 / (((convOutSize seq k stride pad dil).toNat * lead : ℕ) : ℝ) ^ sp2,
              1 / (((convOutSize seq k stride pad dil).toNat * lead : ℕ) : ℝ) ^ sp2]⟩ := by
  simp only [conv1dScales, apply_none, real_model]

theorem matmul_ok {c : Option String} {ls inner rs : ℕ} {s : OpScales ℝ}
    (h : matmulScales ls inner rs c = .ok s) :
    applyConstraint c [powNegHalf (inner : ℝ), powNegHalf (rs : ℝ), powNegHalf (ls : ℝ)]
      = .ok (s.fwd :: s.bwd) := by
  unfold matmulScales at h
  obtain ⟨l', hl', h⟩ := except_bind_eq_ok.1 h
  split at h <;> cases h
  exact hl'

theorem matmul_constrained (n : String) (hn : n ≠ "") (ls inner rs : ℕ) (s : ℝ)
    (h : constraintFn n [powNegHalf (inner : ℝ), powNegHalf (rs : ℝ), powNegHalf (ls : ℝ)] = .ok s) :
    matmulScales ls inner rs (some n) = .ok ⟨s, [s, s]⟩ :=
  -- `matmulScales` is `applyConstraint _ [_, _, _] >>=` a match on the three scales returned
  congrArg (· >>= _) (apply_rule n hn _ s h)

theorem matmul_unconstrained (ls inner rs : ℕ) :
    matmulScales (α := ℝ) ls inner rs none
      = .ok ⟨powNegHalf (inner : ℝ), [powNegHalf (rs : ℝ), powNegHalf (ls : ℝ)]⟩ := rfl

theorem add_constrained (n : String) (hn : n ≠ "") (a b out : List ℕ)
    (hb : broadcastShapes a b = some out) (s : ℝ)
    (h : constraintFn n
      [if (prodNat a == 1 || prodNat b == 1) = true then (1 : ℝ) else powNegHalf ((2 : ℕ) : ℝ),
       powNegHalf ((prodNat out / prodNat a : ℕ) : ℝ), powNegHalf ((prodNat out / prodNat b : ℕ) : ℝ)] = .ok s) :
    addScales a b (some n) = .ok ⟨s, [s, s]⟩ := by
  simp only [addScales, hb, nat_real, Nat.cast_one, apply_rule n hn _ s h]
  rfl

theorem add_unconstrained {a b out : List ℕ} (hb : broadcastShapes a b = some out)
    (ha1 : prodNat a ≠ 1) (hb1 : prodNat b ≠ 1) :
    addScales (α := ℝ) a b none = .ok ⟨powNegHalf ((2 : ℕ) : ℝ),
      [powNegHalf ((prodNat out / prodNat a : ℕ) : ℝ), powNegHalf ((prodNat out / prodNat b : ℕ) : ℝ)]⟩ := by
  simp only [addScales, hb, apply_none, real_model, Bool.or_eq_true, beq_iff_eq, ha1, hb1, or_self, if_false]

/-- The fixed-constraint ops use one scale for output and all gradients. -/
theorem silu_glu_single_scale (mult : ℝ) :
    (siluGluScales mult).bwd = [(siluGluScales mult).fwd, (siluGluScales mult).fwd] := rfl
theorem sdpa_single_scale (n d : ℕ) (p mult : ℝ) (c : Bool) :
    (sdpaScales n d p mult c).bwd
      = [(sdpaScales n d p mult c).fwd, (sdpaScales n d p mult c).fwd, (sdpaScales n d p mult c).fwd] := rfl

example : constraintFn (α := ℝ) "gmean" [2, 8] = .ok (gmean [2, 8]) := rfl
example : applyConstraint (α := ℝ) (some "pow") [2, 3] = .error .valueError :=
  apply_unknown "pow" (by decide +kernel) (by decide) _

end USProofs.C05
