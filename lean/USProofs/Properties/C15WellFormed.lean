/-
  C15 — the quantisation backend returns a well-formed graph: splicing the two format tuples into a call
  (and moving a keyword `bias` into the third positional slot) never introduces a reference that the
  original node did not have, so every reference still points to a strictly earlier node.
-/
import USModel.SimFormat
import USProofs.Properties.C16Refs

open USModel
open USProofs.C16 (mem_inputs_iff)

namespace USProofs.C15

theorem lookupKw_mem {kw : List (String × Arg)} {k : String} {a : Arg} (h : lookupKw kw k = some a) :
    ∃ kv ∈ kw, kv.2 = a := by
  obtain ⟨kv, hf, rfl⟩ := Option.map_eq_some_iff.mp h
  exact ⟨kv, List.mem_of_find?_eq_some hf, rfl⟩

theorem fmt_toArg_refs (f : Fmt) : f.toArg.refs = [] := rfl

theorem mem_of_mem_splice {fwd bwd : Fmt} {args : List Arg} {a : Arg} {c : Nat} (hc : c ∈ a.refs)
    (ha : a ∈ args.take 3 ++ [fwd.toArg, bwd.toArg] ++ args.drop 3) : a ∈ args := by
  simp only [List.mem_append, List.mem_cons, List.not_mem_nil, or_false] at ha
  rcases ha with (ha | rfl | rfl) | ha
  · exact List.mem_of_mem_take ha
  · rw [fmt_toArg_refs] at hc; cases hc
  · rw [fmt_toArg_refs] at hc; cases hc
  · exact List.mem_of_mem_drop ha

theorem replace_inputs_sub (fwd bwd : Fmt) (n : GNode) : ∀ c ∈ (replaceWithQuantised fwd bwd n).inputs, c ∈ n.inputs := by
  intro c hc
  unfold replaceWithQuantised at hc
  -- a node that is not a call, or a call of a function that is not mapped, stays as it is
  split at hc
  case isFalse => exact hc
  split at hc
  case h_2 => exact hc
  rw [mem_inputs_iff] at hc ⊢
  -- `let (args, kwargs) := if …` is a match on the pair: splitting it leaves `hpair : (if …) = (args, kwargs)`
  split at hc
  rename_i hpair
  split at hpair <;> cases hpair
  · -- two positionals: bias appended from the keyword (or None), the keyword erased
    rcases hc with ⟨a, ha, hca⟩ | ⟨kv, hkv, hcr⟩
    · rcases List.mem_append.mp (mem_of_mem_splice hca ha) with ha | ha
      · exact Or.inl ⟨a, ha, hca⟩
      · obtain rfl := List.mem_singleton.mp ha
        cases hl : lookupKw n.kwargs "bias" with
        | none => rw [hl] at hca; cases hca
        | some b =>
          obtain ⟨kv, hkv, rfl⟩ := lookupKw_mem hl
          exact Or.inr ⟨kv, hkv, by simpa [hl] using hca⟩
    · exact Or.inr ⟨kv, (List.mem_filter.mp hkv).1, hcr⟩
  · exact hc.imp_left fun ⟨a, ha, hca⟩ => ⟨a, mem_of_mem_splice hca ha, hca⟩

theorem simulate_wellformed (fwd bwd : Fmt) (g : Graph) (hw : g.wellFormed = true) :
    Graph.wellFormed (simulateBackend fwd bwd g) = true := by
  rw [USProofs.C16.wellFormed_iff] at hw ⊢
  intro n' k hk c hc
  rw [simulateBackend, List.getElem?_map, Option.map_eq_some_iff] at hk
  obtain ⟨n, hn, rfl⟩ := hk
  exact hw n k hn c (replace_inputs_sub fwd bwd n c hc)

end USProofs.C15
