/- C13 — the full 32-bit pattern: sign and magnitude together (E ≤ 7). -/
import USProofs.Properties.C13Sub

open USModel USModel.F32

namespace USProofs.C13

/-- signed value of a 32-bit pattern (`bits < 2^32`): sign bit, then the magnitude's value -/
def sval (bits : ℕ) : ℚ := if bits / 2 ^ 31 = 0 then val (bits % 2 ^ 31) else - val (bits % 2 ^ 31)

section
variable (E M : ℕ) (hE : 1 ≤ E) (hB : 2 ^ (E - 1) ≤ 127) (hM : M ≤ 23)
include hE hB hM

theorem quantBits_fields (off bits : ℕ) (hoff : off < 2 ^ (23 - M)) :
    quantBits E M off bits / 2 ^ 31 = bits / 2 ^ 31 ∧
    quantBits E M off bits % 2 ^ 31 = quantMag E M off (bits % 2 ^ 31) := by
  have hlt := lt_of_le_of_lt (quantMag_le_absmax E M hE hB hM off (bits % 2 ^ 31) hoff) (absmax_lt hB hM)
  refine ⟨quantBits_sign E M off bits hlt, ?_⟩
  simp only [quantBits]
  rw [Nat.mul_comm, Nat.mul_add_mod, Nat.mod_eq_of_lt hlt]

/-- Odd symmetry: flipping the sign bit of the input flips the sign bit of the output and nothing else (same rounding
    offset on the magnitude: nearest rounding always, a stochastic draw when it is the same draw). -/
theorem quantBits_odd (off mag : ℕ) (hoff : off < 2 ^ (23 - M)) (hmag : mag < 2 ^ 31) :
    quantBits E M off (2 ^ 31 + mag) = 2 ^ 31 + quantBits E M off mag := by
  simp only [quantBits]
  rw [Nat.add_comm (2 ^ 31) mag, Nat.add_div_right _ (Nat.two_pow_pos 31), Nat.add_mod_right,
    Nat.div_eq_of_lt hmag, Nat.mod_eq_of_lt hmag, Nat.zero_mul, Nat.zero_add, Nat.one_mul, Nat.zero_add]

/-- monotone in the real order of signed values -/
theorem quantise_monotone_signed (off a b : ℕ) (hoff : off < 2 ^ (23 - M)) (ha : a < 2 ^ 32) (hb : b < 2 ^ 32)
    (hab : sval a ≤ sval b) :
    sval (quantBits E M off a) ≤ sval (quantBits E M off b) := by
  obtain ⟨sa, ma⟩ := quantBits_fields E M hE hB hM off a hoff
  obtain ⟨sb, mb⟩ := quantBits_fields E M hE hB hM off b hoff
  have mono := fun x y (h : val x ≤ val y) =>
    val_mono (quantise_monotone_all E M off x y hE hB hM hoff (val_strictMono.le_iff_le.mp h))
  have nn := val_nonneg
  unfold sval at hab ⊢
  rw [sa, sb, ma, mb]
  generalize a % 2 ^ 31 = x at *
  generalize b % 2 ^ 31 = y at *
  split_ifs at hab ⊢ with h0 g0
  · exact mono _ _ hab
  · -- `a ≥ 0 > -|b|`: only possible when both values are 0
    have hx : x = 0 := val_injective
      ((le_antisymm (le_trans hab (neg_nonpos.mpr (nn y))) (nn x)).trans val_zero.symm)
    have hy : y = 0 := val_injective
      ((le_antisymm (le_trans (le_neg_of_le_neg hab) (neg_nonpos.mpr (nn x))) (nn y)).trans val_zero.symm)
    rw [hx, hy, quantise_sub_fixes E M hE hB hM off 0 0 hoff (Nat.zero_le _) (Nat.zero_mul _).symm, val_zero, neg_zero]
  · exact le_trans (neg_nonpos.mpr (nn _)) (nn _)
  · exact neg_le_neg (mono y x (neg_le_neg_iff.mp hab))

end

end USProofs.C13
