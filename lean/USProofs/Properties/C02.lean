/-
  C02 — gradients are PyTorch's gradients times per-input data-independent scalars.
-/
import USModel.Autograd
import USProofs.RealInst
import USProofs.Properties.C01

open USModel

namespace USProofs.C02

section
variable {A B C Y : Type} [SMul ℝ A] [SMul ℝ B] [SMul ℝ C] [SMul ℝ Y]

/-- The two scaling primitives: for every real factor (zero and negatives included)
    `scale_fwd` multiplies the value only, `scale_bwd` the gradient only. -/
theorem scaleFwd_spec (c : ℝ) (x g : A) :
    (scaleFwd c : DOp A A).fwd x = c • x ∧ (scaleFwd c : DOp A A).vjp x g = g := ⟨rfl, rfl⟩
theorem scaleBwd_spec (c : ℝ) (x g : A) :
    (scaleBwd c : DOp A A).fwd x = x ∧ (scaleBwd c : DOp A A).vjp x g = c • g := ⟨rfl, rfl⟩

/-- The gradient delivered to each input is PyTorch's gradient (for the same upstream `g`, at
    the same point) times that input's backward scale; no linearity of `F.vjp` is assumed. -/
theorem scaled1_vjp (f b : ℝ) (F : DOp A Y) (x : A) (g : Y) :
    (scaled1 f b F).vjp x g = b • F.vjp x g := rfl
theorem scaled2_vjp (f a b : ℝ) (F : DOp (A × B) Y) (x : A × B) (g : Y) :
    (scaled2 f a b F).vjp x g = (a • (F.vjp x g).1, b • (F.vjp x g).2) := rfl
theorem scaled3_vjp (f a b c : ℝ) (F : DOp (A × B × C) Y) (x : A × B × C) (g : Y) :
    (scaled3 f a b c F).vjp x g
      = (a • (F.vjp x g).1, b • (F.vjp x g).2.1, c • (F.vjp x g).2.2) := rfl

theorem fwd_scale_not_in_grad (f f' b : ℝ) (F : DOp A Y) (x : A) (g : Y) :
    (scaled1 f b F).vjp x g = (scaled1 f' b F).vjp x g := rfl

/-- Mean-reduced losses: the gradient is that of the sum-reduced PyTorch loss (at the
    temperature-scaled logits) times the backward scale; the `1/batch` of the forward value is
    not applied to it, nor is the forward-only temperature. -/
theorem cross_entropy_vjp (f mult b : ℝ) (Fsum : DOp A Y) (x : A) (g : Y) :
    (crossEntropyOp f mult b Fsum).vjp x g = b • Fsum.vjp (mult • x) g := rfl
theorem mse_vjp (f b : ℝ) (Fsum : DOp (A × A) Y) (x : A × A) (g : Y) :
    (mseOp f b Fsum).vjp x g = (b • (Fsum.vjp x g).1, b • (Fsum.vjp x g).2) := rfl
end

/-! Positivity of the other backward scalars: `C01.*_pos` (those of the ops that take a constraint cover `bwd`; the
  fixed-constraint ops use their forward scale for every gradient, `C05.*_single_scale`). -/
theorem norm_grad_pos (n m : ℕ) (hn : 0 < n) (hm : 0 < m) :
    ∀ b ∈ (normScales (α := ℝ) n m).bwd, 0 < b := by
  have hs : (0 : ℝ) < powHalf (nat n / nat m) :=
    C01.powHalf_pos (div_pos (Nat.cast_pos.2 hn) (Nat.cast_pos.2 hm))
  exact List.forall_mem_cons.2 ⟨Nat.cast_pos.2 one_pos,
    List.forall_mem_cons.2 ⟨hs, List.forall_mem_singleton.2 hs⟩⟩

theorem embedding_grad_pos (v b : ℕ) (hv : 0 < v) (hb : 0 < b) :
    ∀ s ∈ (embeddingScales (α := ℝ) v b).bwd, 0 < s :=
  List.forall_mem_singleton.2 (C01.powHalf_pos (div_pos (Nat.cast_pos.2 hv) (Nat.cast_pos.2 hb)))

theorem cross_entropy_grad_pos (b v : ℕ) (hv : 2 ≤ v) (mean : Bool) :
    ∀ s ∈ (crossEntropyScales (α := ℝ) b v mean).bwd, 0 < s :=
  List.forall_mem_singleton.2 (div_pos (Nat.cast_pos.2 (Nat.zero_lt_two.trans_le hv))
    (C01.powHalf_pos (Nat.cast_pos.2 (Nat.sub_pos_of_lt hv))))

theorem mse_grad_pos (n : ℕ) (mean : Bool) : ∀ s ∈ (mseScales (α := ℝ) n mean).bwd, 0 < s :=
  have h : (0 : ℝ) < powNegHalf (nat 8) := C01.powNegHalf_pos (Nat.cast_pos.2 (by decide))
  List.forall_mem_cons.2 ⟨h, List.forall_mem_singleton.2 h⟩

end USProofs.C02
