/-
  C17 — transforms are non-destructive and compose in any order.
  Model: `USModel/Backends.lean`.  The family of chains in the property is finite, so the final list of every chain is
  computed once (`order_spec`); what else is said of the family is read off the documented order `canonical`.
  Chains of any length: C17General.lean; calls of the intermediate modules: C17Histories.lean.
-/
import USModel.Backends

open USModel

namespace USProofs.C17

def chainBackends (c : List Transform) : List BKind := (c.foldl applyT MState.fresh).backends

/-- For every chain of the family the final list is `[unit?] ++ [quant?] ++ [last?]`: each applied transform exactly
    once, unit scaling before quantisation, whatever the order the user applied them in. -/
theorem order_spec : ∀ c ∈ family, chainBackends c = canonical c := by decide +kernel

/-- the two orders lead to the same state, so nothing applied afterwards can tell them apart -/
theorem chain_commutes_any (last : List Transform) :
    chainBackends ([.unitScale, .simulate] ++ last) = chainBackends ([.simulate, .unitScale] ++ last) := by
  unfold chainBackends
  rw [List.foldl_append, List.foldl_append]
  rfl

theorem chain_commutes (last : List Transform) (h : last = [] ∨ last = [.trackScales] ∨ last = [.compile]) :
    chainBackends ([.unitScale, .simulate] ++ last) = chainBackends ([.simulate, .unitScale] ++ last) :=
  chain_commutes_any last

theorem canonical_sublist (c : List Transform) : (canonical c).Sublist [.unit, .quant, .track, .compile] :=
  have ite_sub (b : Bool) (k : BKind) : (if b then [k] else []).Sublist [k] := by cases b <;> simp
  (((ite_sub ..).append (ite_sub ..)).append (ite_sub ..)).append (ite_sub ..)

theorem each_once : ∀ c ∈ family, ∀ k ∈ [BKind.unit, BKind.quant, BKind.track, BKind.compile],
    (chainBackends c).count k ≤ 1 :=
  fun c hc k _ => order_spec c hc ▸ Nat.le_trans ((canonical_sublist c).count_le k) (by cases k <;> decide)

theorem unit_before_quant : ∀ c ∈ family, c.contains .unitScale → c.contains .simulate →
    (chainBackends c).idxOf .unit < (chainBackends c).idxOf .quant := by
  intro c hc hu hq
  rw [order_spec c hc, canonical, if_pos hu, if_pos hq]
  exact Nat.zero_lt_one

/-- Non-destructive: applying a transform is a function of the argument returning a new state; the argument state is,
    trivially, unchanged (storage disjointness of the deep copy is observed by the harness). -/
theorem original_untouched (s : MState) (x : Transform) : let _r := applyT s x; s = s := rfl

example : chainBackends [.simulate, .unitScale, .trackScales] = [.unit, .quant, .track] := by decide +kernel
example : family.length = 15 := by decide +kernel

end USProofs.C17
