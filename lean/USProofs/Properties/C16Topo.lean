/-
  C16 — the graph handed to the last pass is topologically ordered, for every well-formed input graph:
  `rewritten_topo`.  This discharges the premise of `marked_spec` / `constrained_kept` /
  `unconstrained_set` (C16Deps.lean) and shows that the node insertions of `_unit_scale_residual`
  (split after the skip tensor, the two `getitem`s after the split, consumers re-routed) never produce
  a use-before-definition or a duplicate node — the part of "runs without error on any module" that
  is about the rewritten graph itself.
-/
import USModel.UnitScale
import USProofs.Properties.C16Deps
import USProofs.Properties.C19

open USModel

namespace USProofs.C16
open USProofs.C19 (rewired prune_inputs)

theorem findIdx?_split {p s : IGraph} {y : INode} (hp : ∀ w ∈ p, w.id ≠ y.id) :
    (p ++ y :: s).findIdx? (·.id == y.id) = some p.length := by
  have : p.findIdx? (·.id == y.id) = none := List.findIdx?_eq_none_iff.mpr fun w hw => by simpa using hp w hw
  simp [List.findIdx?_append, this, List.findIdx?_cons]

theorem insertAfter_eq (z : INode) (p s : IGraph) (y : INode) (hp : ∀ w ∈ p, w.id ≠ y.id) :
    IGraph.insertAfter (p ++ y :: s) y.id z = p ++ y :: z :: s := by
  rw [IGraph.insertAfter, findIdx?_split hp]
  -- `insertIdx` is `modifyTailIdx`, and one step into `y :: s` reduces
  exact List.modifyTailIdx_add (z :: ·) 1 p (y :: s)

-- `beforeL_iff_right` and `topoL_insertAfter` state one insertion in terms of `TopoL` / `BeforeL`; the residual rewrite below
-- does its three insertions through `insertAfter_eq` and `TopoFrom` and does not use them
theorem beforeL_iff_right {l p s : List Nat} {a : Nat} (hn : l.Nodup) (e : l = p ++ a :: s) (b : Nat) :
    BeforeL l a b ↔ b ∈ s := by
  subst e
  have ha := List.nodup_middle.mp hn
  simp only [List.nodup_cons, List.mem_append, not_or] at ha
  constructor
  · rintro ⟨p', s', e', hap⟩
    obtain ⟨q, t, rfl⟩ := List.append_of_mem hap
    rw [List.append_assoc, List.cons_append] at e'
    rw [((List.append_cons_inj_of_notMem ha.1.1 ha.1.2).mp e').2.2]
    simp
  · intro hb
    obtain ⟨q, t, rfl⟩ := List.append_of_mem hb
    exact ⟨p ++ a :: q, t, by simp, by simp⟩

/-- inserting a node with a fresh id and no input other than `after` right after node `after` keeps the graph topologically
    ordered, and everything that came after `after` comes after the new node -/
theorem topoL_insertAfter {g : IGraph} (h : TopoL g) (after : Nat) (z : INode) (hmem : after ∈ ids g)
    (hfresh : z.id ∉ ids g) (hzin : ∀ a ∈ z.n.inputs, a = after) :
    TopoL (IGraph.insertAfter g after z) ∧ (ids g).Sublist (ids (IGraph.insertAfter g after z)) ∧
    (∀ b, BeforeL (ids g) after b → BeforeL (ids (IGraph.insertAfter g after z)) z.id b) ∧
    (∀ w, w ∈ IGraph.insertAfter g after z ↔ w ∈ g ∨ w = z) ∧
    BeforeL (ids (IGraph.insertAfter g after z)) after z.id := by
  obtain ⟨y, hy, rfl⟩ := List.mem_map.mp hmem
  obtain ⟨p, s, rfl⟩ := List.append_of_mem hy
  have ht := topoL_iff_topoFrom.mp h
  rw [insertAfter_eq z p s y ht.ne_of_split]
  have hi : ids (p ++ y :: s) = ids p ++ y.id :: ids s := List.map_append
  have hi' : ids (p ++ y :: z :: s) = (ids p ++ [y.id]) ++ z.id :: ids s := by
    rw [List.append_assoc]
    exact List.map_append
  rw [hi, List.mem_append, List.mem_cons, not_or, not_or] at hfresh
  have ht' : TopoL (p ++ y :: z :: s) := by
    rw [topoL_iff_topoFrom]
    rw [List.append_cons] at ht ⊢
    have hy' : y.id ∈ ids (p ++ [y]) := List.mem_map.mpr ⟨y, List.mem_append_right _ List.mem_cons_self, rfl⟩
    refine ht.insert List.not_mem_nil (fun hc => ?_) hfresh.2.2 fun a ha => Or.inr (hzin a ha ▸ hy')
    rw [ids, List.map_append, List.mem_append] at hc
    exact hc.elim hfresh.1 fun hc => hfresh.2.1 (List.mem_singleton.mp hc)
  refine ⟨ht', ?_, fun b hb => ?_, fun w => ?_, ?_⟩
  · rw [hi, hi', List.append_assoc]
    exact .append_left (.cons_cons _ (List.sublist_cons_self _ _)) _
  · exact (beforeL_iff_right ht'.1 hi' b).mpr ((beforeL_iff_right h.1 hi b).mp hb)
  · rw [List.append_cons, List.append_cons p y s, List.perm_middle.mem_iff, List.mem_cons, or_comm]
  · exact (beforeL_iff ht'.1 hi' _).mpr (by simp)

theorem TopoFrom.not_mem_inputs {seen : List Nat} {p s : IGraph} {y x : INode} (h : TopoFrom seen (p ++ y :: s))
    (hx : x ∈ p ++ [y]) : y.id ∉ x.n.inputs := by
  induction p generalizing seen with
  | nil =>
    obtain rfl : x = y := by simpa using hx
    exact fun hc => h.1.1 (h.1.2 _ hc)
  | cons w p ih =>
    rcases List.mem_cons.mp hx with rfl | hx
    · exact fun hc => h.nodup.2 y (by simp) (h.1.2 _ hc)
    · exact ih h.2 hx

theorem lt_freshId (g : IGraph) : ∀ x ∈ g, x.id < g.freshId := fun x hx => by
  -- the running maximum from 0 over the ids is `(0 :: ids).max?` by definition, and that bounds every element
  have h := (List.max?_eq_some_iff.mp List.max?_cons').2 x.id
    (List.mem_cons_of_mem 0 (List.mem_map_of_mem (f := (·.id)) hx))
  rw [List.foldl_map] at h
  exact Nat.lt_succ_of_le h

theorem ne_freshId_add {g : IGraph} {x : INode} (hx : x ∈ g) (k : Nat) : x.id ≠ g.freshId + k := fun e =>
  Nat.not_lt.mpr (Nat.le_add_right _ k) (e ▸ lt_freshId g x hx)

theorem ref_mem_inputs {n : GNode} {k i : Nat} (h : n.args[k]? = some (.ref i)) : i ∈ n.inputs :=
  (mem_inputs_iff ..).mpr (Or.inl ⟨_, List.mem_of_getElem? h, List.mem_singleton_self i⟩)

theorem replaceRefsIn_eq (old new : Nat) (x : INode) :
    ({ x with n := replaceRefsIn old new x.n } : INode) = rewired old (some new) x := rfl

theorem setKw_lit_inputs (n : GNode) (t k s : String) (c : Nat)
    (hc : c ∈ ({ n with target := t, kwargs := setKw n.kwargs k (.lit s) } : GNode).inputs) : c ∈ n.inputs := by
  simp only [mem_inputs_iff, setKw, eraseKw, List.mem_append, List.mem_filter, List.mem_singleton] at hc ⊢
  rcases hc with hc | ⟨kv, ⟨hkv, -⟩ | rfl, hcr⟩
  exacts [Or.inl hc, Or.inr ⟨kv, hkv, hcr⟩, by simp [Arg.refs] at hcr]

/-- what `_unit_scale_residual` does to the other users of the skip tensor … -/
def reroute (addId skip new : Nat) (x : INode) : INode :=
  if x.id != addId && x.n.inputs.contains skip then { x with n := replaceRefsIn skip new x.n } else x

/-- … and to the add itself -/
def asResidualAdd (addId : Nat) (args : List Arg) (x : INode) : INode :=
  if x.id == addId then { x with n := { x.n with target := "U.residual_add", args := args } } else x

theorem reroute_id (addId skip new : Nat) (x : INode) : (reroute addId skip new x).id = x.id := by
  unfold reroute; split <;> rfl

theorem reroute_eq_self {addId skip new : Nat} {x : INode} (h : skip ∉ x.n.inputs) : reroute addId skip new x = x := by
  simp [reroute, h]

theorem reroute_inputs {addId skip new : Nat} {x : INode} {c : Nat} (hc : c ∈ (reroute addId skip new x).n.inputs) :
    c ∈ x.n.inputs ∨ c = new := by
  unfold reroute at hc
  split at hc
  · exact ((prune_inputs skip new x c).mp hc).imp And.left And.left
  · exact Or.inl hc

theorem asResidualAdd_id (addId : Nat) (args : List Arg) (x : INode) : (asResidualAdd addId args x).id = x.id := by
  unfold asResidualAdd; split <;> rfl

theorem asResidualAdd_ne {addId : Nat} {args : List Arg} {x : INode} (h : x.id ≠ addId) : asResidualAdd addId args x = x := by
  simp [asResidualAdd, h]

theorem asResidualAdd_inputs {addId : Nat} {args : List Arg} {x : INode} {c : Nat}
    (hc : c ∈ (asResidualAdd addId args x).n.inputs) : c ∈ x.n.inputs ∨ x.id = addId ∧ ∃ a ∈ args, c ∈ a.refs := by
  unfold asResidualAdd at hc
  split at hc
  · rename_i e
    simp only [mem_inputs_iff] at hc ⊢
    exact hc.elim (fun h => Or.inr ⟨by simpa using e, h⟩) (fun h => Or.inl (Or.inr h))
  · exact Or.inl hc

theorem rewriteResidual_cases (g : IGraph) (addId idx : Nat) (sa : Bool) :
    rewriteResidual g addId idx sa = g ∨ ∃ a residual skip,
      g.get? addId = some a ∧ a.n.args[idx]? = some residual ∧ a.n.args[1 - idx]? = some (.ref skip) := by
  unfold rewriteResidual
  split
  · exact .inl rfl
  next a hget =>
  split
  next residual skip hres hsk => exact .inr ⟨a, residual, skip, hget, hres, hsk⟩
  · exact .inl rfl

/-- `rewriteResidual` in closed form, the skip node being `y`: the split and its two outputs follow `y`, and only
    nodes after `y` change — its other users read output 0 of the split, the add becomes the residual add -/
theorem rewriteResidual_eq {p s : IGraph} {y a : INode} {addId idx : Nat} {residual : Arg} (sa : Bool)
    (h : TopoL (p ++ y :: s)) (hget : (p ++ y :: s).get? addId = some a) (hres : a.n.args[idx]? = some residual)
    (hsk : a.n.args[1 - idx]? = some (.ref y.id)) :
    let tau := Arg.lit (if sa then "0.01" else "0.5")
    let id0 := (p ++ y :: s).freshId
    rewriteResidual (p ++ y :: s) addId idx sa = p ++ [y] ++
      ⟨id0, { op := "call_function", target := "U.residual_split", args := [.ref y.id, tau], kwargs := [] }⟩ ::
      ⟨id0 + 2, { op := "call_function", target := "op.getitem", args := [.ref id0, .lit "1"], kwargs := [] }⟩ ::
      ⟨id0 + 1, { op := "call_function", target := "op.getitem", args := [.ref id0, .lit "0"], kwargs := [] }⟩ ::
      s.map (asResidualAdd addId [residual, .ref (id0 + 2), tau] ∘ reroute addId y.id (id0 + 1)) := by
  intro tau id0
  have ht := topoL_iff_topoFrom.mp h
  obtain ⟨ha, haid⟩ := IGraph.get?_mem hget
  -- by the order nothing in `p ++ [y]` uses `y`, and the add does: the add is in `s`
  have hpy : ∀ x ∈ p ++ [y], x.id ≠ addId := fun x hx e => ht.not_mem_inputs hx <| by
    rw [List.inj_on_of_nodup_map h.1 (List.append_cons .. ▸ List.mem_append_left s hx) ha (e.trans haid.symm)]
    exact ref_mem_inputs hsk
  have hk : ∀ k, id0 + k ≠ addId := fun k e => ne_freshId_add ha k (haid.trans e.symm)
  -- `id0 + 0` reduces to `id0`
  have hfr : ∀ w ∈ p ++ [y], w.id ≠ id0 := fun w hw =>
    ne_freshId_add (List.append_cons .. ▸ List.mem_append_left s hw) 0
  rw [rewriteResidual, hget]
  simp -zeta only [hres, hsk]
  extract_lets split start nskip g1 g2 g3
  -- the two maps of `rewriteResidual` are `reroute` and `asResidualAdd` with their bodies written out
  show List.map (asResidualAdd addId [residual, .ref (id0 + 2), tau]) (IGraph.insertAfter (IGraph.insertAfter
    (IGraph.insertAfter ((p ++ y :: s).map (reroute addId y.id (id0 + 1))) _ split) _ start) _ nskip) =
      p ++ [y] ++ split :: nskip :: start :: _
  rw [List.append_cons, List.map_append, List.map_congr_left fun x hx => reroute_eq_self (ht.not_mem_inputs hx),
    List.map_id', List.append_assoc, List.singleton_append, insertAfter_eq split p _ y ht.ne_of_split, List.append_cons,
    insertAfter_eq start _ _ split hfr, insertAfter_eq nskip _ _ split hfr, List.map_append,
    List.map_congr_left fun x hx => asResidualAdd_ne (hpy x hx), List.map_id', List.map_cons, List.map_cons,
    List.map_cons, List.map_map, asResidualAdd_ne (hk 0), asResidualAdd_ne (hk 2), asResidualAdd_ne (hk 1)]

theorem topoL_rewriteResidual (g : IGraph) (addId idx : Nat) (sa : Bool) (h : TopoL g) :
    TopoL (rewriteResidual g addId idx sa) := by
  rcases rewriteResidual_cases g addId idx sa with e | ⟨a, residual, skip, hget, hres, hsk⟩
  · rwa [e]
  have ht := topoL_iff_topoFrom.mp h
  obtain ⟨ha, haid⟩ := IGraph.get?_mem hget
  -- the skip tensor is an input of the add, so it is some node `y` of the graph
  obtain ⟨y, hy, rfl⟩ := List.mem_map.mp ((topo_iff_topoFrom.mpr ht).inputs_mem ha (ref_mem_inputs hsk))
  obtain ⟨p, s, rfl⟩ := List.append_of_mem hy
  have hg := rewriteResidual_eq sa h hget hres hsk
  extract_lets tau id0 at hg
  rw [hg, topoL_iff_topoFrom, topoFrom_append, List.append_nil]
  rw [List.append_cons, topoFrom_append, List.append_nil] at ht
  -- the new ids are `id0 + 0` (which reduces to `id0`), `id0 + 2`, `id0 + 1`
  have hfresh : ∀ k, id0 + k ∉ (ids (p ++ [y])).reverse := fun k hc => by
    obtain ⟨x, hx, e⟩ := List.mem_map.mp (List.mem_reverse.mp hc)
    exact ne_freshId_add (List.append_cons .. ▸ List.mem_append_left s hx) k e
  -- the inputs of the new nodes, `[y.id]`, `[id0]`, `[id0]`, come from evaluating `GNode.inputs`
  refine ⟨ht.1, ⟨hfresh 0, fun c hc => ?_⟩, ⟨?_, fun c hc => ?_⟩, ⟨?_, fun c hc => ?_⟩, ?_⟩
  · obtain rfl : c = y.id := List.mem_singleton.mp hc
    exact List.mem_reverse.mpr (List.mem_map.mpr ⟨y, List.mem_append_right _ List.mem_cons_self, rfl⟩)
  · exact fun hc => (List.mem_cons.mp hc).elim (fun e : id0 + 2 = id0 => by simp at e) (hfresh 2)
  · obtain rfl : c = id0 := List.mem_singleton.mp hc
    exact List.mem_cons_self
  · exact fun hc => (List.mem_cons.mp hc).elim (fun e : id0 + 1 = id0 + 2 => by simp at e) fun hc =>
      (List.mem_cons.mp hc).elim (fun e : id0 + 1 = id0 => by simp at e) (hfresh 1)
  · obtain rfl : c = id0 := List.mem_singleton.mp hc
    exact List.mem_cons_of_mem _ List.mem_cons_self
  -- `s` under the two maps, the three new ids having joined `seen`
  refine ht.2.map _ (fun x => (asResidualAdd_id ..).trans (reroute_id ..))
    (fun c hc => List.mem_cons_of_mem _ (List.mem_cons_of_mem _ (List.mem_cons_of_mem _ hc)))
    (fun x hx hc => ?old_id) (fun x hx c hc => ?new_input)
  case old_id =>
    have := ne_freshId_add (List.mem_append_right p (List.mem_cons_of_mem y hx))
    rcases List.mem_cons.mp hc with e | hc
    · exact absurd e (this 1)
    rcases List.mem_cons.mp hc with e | hc
    · exact absurd e (this 2)
    exact (List.mem_cons.mp hc).elim (fun e => absurd e (this 0)) id
  case new_input =>
    rcases asResidualAdd_inputs hc with hc | ⟨e, a', ha', hca⟩
    · exact (reroute_inputs hc).imp_right fun e : c = id0 + 1 => e ▸ List.mem_cons_self
    · -- the add: `residual` was an argument before, `id0 + 2` is new, `tau` is a literal
      obtain rfl : x = a := List.inj_on_of_nodup_map h.1 (by simp [hx]) ha ((reroute_id ..).symm.trans (e.trans haid.symm))
      simp only [List.mem_cons, List.not_mem_nil, or_false] at ha'
      rcases ha' with rfl | rfl | rfl
      · exact Or.inl ((mem_inputs_iff ..).mpr (Or.inl ⟨_, List.mem_of_getElem? hres, hca⟩))
      · obtain rfl : c = id0 + 2 := List.mem_singleton.mp hca
        exact Or.inr (List.mem_cons_of_mem _ List.mem_cons_self)
      · cases hca

theorem topoL_foldl_rewrite (kinds : List (Nat × AddKind)) (g : IGraph) (h : TopoL g) :
    TopoL (kinds.foldl (fun (g : IGraph) (p : Nat × AddKind) =>
      match p.2 with
      | .residual idx sa => rewriteResidual g p.1 idx sa
      | .plain => g) g) := by
  refine List.foldlRecOn kinds _ h fun g hg p _ => ?_
  cases p.2 with
  | residual idx sa => exact topoL_rewriteResidual g p.1 idx sa hg
  | plain => exact hg

theorem rewritten_topo (user : List (String × String)) (g0 : Graph) (hw : g0.wellFormed = true) :
    Topo (rewritten user g0) := by
  rw [← topoL_iff_topo]
  -- the residual rewrites, applied to the swept graph with `constraint=None` set on the plain adds
  show TopoL (List.foldl _ (List.map _ (sweep user (IGraph.ofGraph g0))) _)
  refine topoL_foldl_rewrite _ _ (topoL_map _ (fun x => ?keeps_id) (fun x _ a ha => ?no_new_input) ?_)
  case keeps_id => split <;> rfl
  case no_new_input =>
    split at ha
    · exact setKw_lit_inputs x.n "U.add" "constraint" "None" a ha
    · exact ha
  exact topoL_sweep user (topoL_ofGraph g0 hw)

theorem rewritten_nodup (user : List (String × String)) (g0 : Graph) (hw : g0.wellFormed = true) :
    (ids (rewritten user g0)).Nodup := (topoL_iff_topo.mpr (rewritten_topo user g0 hw)).1

/-- the run-time check on the documented example -/
example : (rewritten [] demo).topoB = true := by decide +kernel

/-- operations with no later residual addition are unconstrained, all others keep their arguments — for every
    well-formed graph (any size, any nesting of residual blocks) -/
theorem last_pass_spec (user : List (String × String)) (uct : List String) (g0 : Graph) (hw : g0.wellFormed = true)
    (k : Nat) (x : INode) (hx : (rewritten user g0)[k]? = some x) :
    (HasLaterResidual (rewritten user g0) x.id → (unconstrainPass uct (rewritten user g0))[k]? = some x) ∧
    (¬ HasLaterResidual (rewritten user g0) x.id → x.n.op = "call_function" →
      (x.n.target ∈ constraintTargets ∨ x.n.target ∈ uct) →
      (unconstrainPass uct (rewritten user g0))[k]? =
        some { x with n := { x.n with kwargs := setKw x.n.kwargs "constraint" (.lit "None") } }) :=
  ⟨constrained_kept uct _ (rewritten_topo user g0 hw) k x hx,
   unconstrained_set uct _ (rewritten_topo user g0 hw) k x hx⟩

theorem rewritten_deps_spec (user : List (String × String)) (g0 : Graph) (hw : g0.wellFormed = true) (a b : Nat) :
    a ∈ ((allDeps (rewritten user g0)).lookup b).getD [] ↔ Reach (rewritten user g0) a b :=
  (deps_spec _ (rewritten_topo user g0 hw)).2 a b

end USProofs.C16
