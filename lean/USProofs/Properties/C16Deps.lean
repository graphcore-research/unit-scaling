/-
  C16 — the dependency analysis of `unit_scaling_backend` (`_add_dependency_meta`, model `allDeps`) computes exactly
  the transitive-input relation of every topologically ordered graph (`deps_spec`).  This gives the clause "every
  addition in which one operand is computed from the other is a residual connection" its meaning: `residual_detect`
  (C16.lean) speaks about the table `allDeps`, `residual_iff_computed_from` here about reachability in the graph.

  The same relation gives the last pass its meaning: the marked set is `HasLaterResidual` (`marked_spec`), and what
  `unconstrainPass` does to a node is read off `getElem?_unconstrainPass`.  Both rest on the premise `Topo`, which
  graphs coming from FX have (`topo_ofGraph`) and which the run-time check `topoB` decides (`topoB_iff`; both in
  C16Order.lean).
-/
import USModel.UnitScale
import USProofs.Properties.C16
import USProofs.Properties.C16Order

open USModel

namespace USProofs.C16

/-- the node with id `a` is a transitive input of the node with id `b` (`b` is computed from `a`) -/
inductive Reach (g : IGraph) : Nat → Nat → Prop
  | direct {x : INode} {a : Nat} : x ∈ g → a ∈ x.n.inputs → Reach g a x.id
  | trans {x : INode} {a c : Nat} : x ∈ g → c ∈ x.n.inputs → Reach g a c → Reach g a x.id

theorem reach_iff {g : IGraph} {a b : Nat} :
    Reach g a b ↔ ∃ x ∈ g, x.id = b ∧ (a ∈ x.n.inputs ∨ ∃ c ∈ x.n.inputs, Reach g a c) := by
  constructor
  · rintro (⟨hx, ha⟩ | ⟨hx, hc, r⟩)
    exacts [⟨_, hx, rfl, Or.inl ha⟩, ⟨_, hx, rfl, Or.inr ⟨_, hc, r⟩⟩]
  · rintro ⟨x, hx, rfl, ha | ⟨c, hc, r⟩⟩
    exacts [.direct hx ha, .trans hx hc r]

/-- transitivity (the constructor `Reach.trans` extends a path by one edge) -/
theorem Reach.trans' {g : IGraph} {a b c : Nat} (h1 : Reach g a b) (h2 : Reach g b c) : Reach g a c := by
  induction h2 with
  | direct hx hb => exact .trans hx hb h1
  | trans hx hc _ ih => exact .trans hx hc (ih h1)

theorem Reach.of_edges {g g' : IGraph} (h : ∀ y ∈ g', ∀ c ∈ y.n.inputs, Reach g c y.id) {a b : Nat}
    (r : Reach g' a b) : Reach g a b := by
  induction r with
  | direct hy ha => exact h _ hy _ ha
  | trans hy hc _ ih => exact ih.trans' (h _ hy _ hc)

theorem Reach.mono {g g' : IGraph} (h : ∀ x, x ∈ g → x ∈ g') {a b : Nat} (r : Reach g a b) : Reach g' a b :=
  r.of_edges fun y hy _ hc => .direct (h y hy) hc

theorem Topo.inputs_mem {g : IGraph} (h : Topo g) {z : INode} (hz : z ∈ g) {c : Nat} (hc : c ∈ z.n.inputs) :
    c ∈ ids g := by
  obtain ⟨p, s, rfl⟩ := List.append_of_mem hz
  obtain ⟨y, hy, rfl⟩ := (topo_iff.mp h p z s rfl).1 c hc
  exact List.mem_map.mpr ⟨y, List.mem_append_left _ hy, rfl⟩

theorem reach_snoc_ne {p : IGraph} {x : INode} (ht : Topo (p ++ [x])) {a b : Nat} (hb : b ≠ x.id) :
    Reach (p ++ [x]) a b ↔ Reach p a b := by
  obtain ⟨hp, -, hid⟩ := topo_snoc.mp ht
  refine ⟨fun r => ?_, Reach.mono fun _ => List.mem_append_left _⟩
  have old : ∀ {z}, z ∈ p ++ [x] → z.id ≠ x.id → z ∈ p := fun hz hne =>
    (List.mem_append.mp hz).resolve_right fun h => hne (List.mem_singleton.mp h ▸ rfl)
  induction r with
  | direct hz ha => exact .direct (old hz hb) ha
  | trans hz hc _ ih => exact .trans (old hz hb) hc (ih fun e => hid (e ▸ hp.inputs_mem (old hz hb) hc))

theorem reach_prefix {p : IGraph} {x : INode} (ht : Topo (p ++ [x])) {a b : Nat}
    (hb : ∃ y ∈ p, y.id = b) (r : Reach (p ++ [x]) a b) : Reach p a b :=
  (reach_snoc_ne ht fun e => (topo_snoc.mp ht).2.2 (e ▸ hb.elim fun y hy => List.mem_map.mpr ⟨y, hy⟩)).mp r

theorem reach_snoc_self {p : IGraph} {x : INode} (ht : Topo (p ++ [x])) {a : Nat} :
    Reach (p ++ [x]) a x.id ↔ a ∈ x.n.inputs ∨ ∃ c ∈ x.n.inputs, Reach p a c := by
  obtain ⟨-, hin, hid⟩ := topo_snoc.mp ht
  have hne : ∀ c ∈ x.n.inputs, c ≠ x.id := fun c hc e => hid (e ▸ hin c hc)
  rw [reach_iff]
  constructor
  · rintro ⟨z, hz, e, h⟩
    rcases List.mem_append.mp hz with hz | hz
    · exact absurd (List.mem_map.mpr ⟨z, hz, e⟩) hid
    · obtain rfl := List.mem_singleton.mp hz
      exact h.imp_right fun ⟨c, hc, r⟩ => ⟨c, hc, (reach_snoc_ne ht (hne c hc)).mp r⟩
  · exact fun h => ⟨x, by simp, rfl, h.imp_right fun ⟨c, hc, r⟩ => ⟨c, hc, (reach_snoc_ne ht (hne c hc)).mpr r⟩⟩

def depsStep (acc : List (Nat × List Nat)) (x : INode) : List (Nat × List Nat) :=
  acc ++ [(x.id, (x.n.inputs ++ x.n.inputs.flatMap (fun i => (acc.lookup i).getD [])).eraseDups)]

theorem allDeps_eq (g : IGraph) : allDeps g = g.foldl depsStep [] := rfl

theorem allDeps_snoc (p : IGraph) (x : INode) : allDeps (p ++ [x]) = depsStep (allDeps p) x := by
  simp [allDeps_eq, List.foldl_append]

/-- `allDeps` is the transitive-input relation of every topologically ordered graph -/
theorem deps_spec (g : IGraph) (ht : Topo g) :
    (allDeps g).map Prod.fst = g.map (·.id) ∧
    ∀ a b, a ∈ ((allDeps g).lookup b).getD [] ↔ Reach g a b := by
  induction g using List.reverseRecOn with
  | nil =>
    refine ⟨rfl, fun a b => ⟨fun h => (List.not_mem_nil h).elim, fun r => ?_⟩⟩
    obtain ⟨_, hx, _⟩ := reach_iff.mp r
    exact (List.not_mem_nil hx).elim
  | append_singleton p x ih =>
    obtain ⟨ihk, ihr⟩ := ih (topo_snoc.mp ht).1
    refine ⟨by rw [allDeps_snoc, depsStep, List.map_append, ihk, List.map_append]; rfl, fun a b => ?_⟩
    rw [allDeps_snoc, depsStep, List.lookup_append]
    by_cases hb : b = x.id
    · -- the new node: its key is not in the table yet
      have hx : (allDeps p).lookup x.id = none := by
        rw [List.lookup_eq_none_iff]
        intro kv hkv
        have : kv.1 ∈ p.map (·.id) := ihk ▸ List.mem_map_of_mem (f := Prod.fst) hkv
        exact bne_iff_ne.mpr fun e : x.id = kv.1 => (topo_snoc.mp ht).2.2 (e ▸ this)
      subst hb
      simp only [hx, List.lookup_cons_self, Option.or_some, Option.getD_none, Option.getD_some, List.mem_eraseDups,
        List.mem_append, List.mem_flatMap, ihr, reach_snoc_self ht]
    · have hne : (b == x.id) = false := beq_false_of_ne hb
      rw [List.lookup_cons, hne, List.lookup_nil, Option.or_none, ihr, reach_snoc_ne ht hb]

theorem topoL_sweep (user : List (String × String)) {g : IGraph} (h : TopoL g) : TopoL (sweep user g) := by
  rw [sweep_eq]
  exact topoL_map _ (fun _ => rfl) (fun _ _ _ h => h) h

/-- an addition is rewritten as a residual connection iff one operand is computed from the other, in the
    graph-theoretic sense, for every well-formed FX graph and every user replacement map -/
theorem residual_iff_computed_from (g0 : Graph) (hw : g0.wellFormed = true) (user : List (String × String))
    (x : INode) (l r : Nat) (hadd : isAdd x.n = true) (hargs : x.n.args = [.ref l, .ref r]) :
    let g := sweep user (IGraph.ofGraph g0)
    (∃ idx sa, classifyAdd g (allDeps g) x = some (.residual idx sa)) ↔ (Reach g l r ∨ Reach g r l) := by
  intro g
  have ht : Topo g := topoL_iff_topo.mp (topoL_sweep user (topoL_ofGraph g0 hw))
  have hs := (deps_spec g ht).2
  rw [residual_detect g x l r hadd hargs]
  simp only [List.contains_iff_mem, hs]

theorem reach_sweep {user : List (String × String)} {g : IGraph} {a b : Nat} (r : Reach g a b) : Reach (sweep user g) a b := by
  rw [sweep_eq]
  refine r.of_edges fun y hy c hc => ?_
  exact .direct (x := { y with n := { y.n with target := newTarget user y.n } }) (List.mem_map.mpr ⟨y, hy, rfl⟩) hc

/-- in the documented example `x + softmax(linear(x))` the add's second operand is computed from its first -/
example : Reach (sweep [] (IGraph.ofGraph demo)) 0 2 :=
  reach_sweep (.trans (x := ⟨2, demo[2]'(by decide)⟩) (List.mem_iff_getElem?.mpr ⟨2, rfl⟩) (c := 1) (by decide +kernel)
    (.direct (x := ⟨1, demo[1]'(by decide)⟩) (List.mem_iff_getElem?.mpr ⟨1, rfl⟩) (by decide +kernel)))

-- the premise `wellFormed` of the theorems about `rewritten` can be met
example : Graph.wellFormed demo = true := by decide +kernel

/-- `i` has a later residual addition: it is a residual add itself or some residual add is computed from it -/
def HasLaterResidual (g : IGraph) (i : Nat) : Prop :=
  ∃ r ∈ g, r.n.target = "U.residual_add" ∧ (r.id = i ∨ Reach g i r.id)

theorem marked_spec (g : IGraph) (ht : Topo g) (i : Nat) :
    (residualMarked g).contains i = true ↔ HasLaterResidual g i := by
  simp only [residualMarked, List.contains_iff_mem, List.mem_flatMap, List.mem_filter, List.mem_cons,
    HasLaterResidual, beq_iff_eq, (deps_spec g ht).2, and_assoc, @eq_comm _ i]

theorem unconstrain_length (uct : List String) (g : IGraph) : (unconstrainPass uct g).length = g.length :=
  List.length_map _

theorem getElem?_unconstrainPass (uct : List String) (g : IGraph) (k : Nat) (x : INode) (hx : g[k]? = some x) :
    (unconstrainPass uct g)[k]? = some
      (if x.id ∉ residualMarked g ∧ x.n.op = "call_function" ∧ (x.n.target ∈ constraintTargets ∨ x.n.target ∈ uct) then
        { x with n := { x.n with kwargs := setKw x.n.kwargs "constraint" (.lit "None") } } else x) := by
  simp only [unconstrainPass, List.contains_eq_mem, Bool.and_eq_true, Bool.not_eq_eq_eq_not, Bool.not_true,
    decide_eq_false_iff_not, beq_iff_eq, Bool.or_eq_true, decide_eq_true_eq, and_assoc, List.getElem?_map, hx,
    Option.map_some]

/-- operations with a later residual addition keep their arguments untouched … -/
theorem constrained_kept (uct : List String) (g : IGraph) (ht : Topo g) (k : Nat) (x : INode)
    (hx : g[k]? = some x) (h : HasLaterResidual g x.id) : (unconstrainPass uct g)[k]? = some x := by
  rw [getElem?_unconstrainPass uct g k x hx, if_neg fun c => c.1 (by simpa using (marked_spec g ht x.id).mpr h)]

/-- … and every operation with a `constraint` parameter and no later residual addition is unconstrained
    (`constraint=None`, bound exactly once — `setKw_count`), nothing else changed -/
theorem unconstrained_set (uct : List String) (g : IGraph) (ht : Topo g) (k : Nat) (x : INode)
    (hx : g[k]? = some x) (h : ¬ HasLaterResidual g x.id) (hop : x.n.op = "call_function")
    (hc : x.n.target ∈ constraintTargets ∨ x.n.target ∈ uct) :
    (unconstrainPass uct g)[k]? =
      some { x with n := { x.n with kwargs := setKw x.n.kwargs "constraint" (.lit "None") } } := by
  rw [getElem?_unconstrainPass uct g k x hx, if_pos ⟨fun c => h ((marked_spec g ht x.id).mp (by simpa using c)), hop, hc⟩]

/-- all other operations are untouched by the last pass -/
theorem unconstrain_other (uct : List String) (g : IGraph) (k : Nat) (x : INode) (hx : g[k]? = some x)
    (h : x.n.op ≠ "call_function" ∨ (x.n.target ∉ constraintTargets ∧ x.n.target ∉ uct)) :
    (unconstrainPass uct g)[k]? = some x := by
  rw [getElem?_unconstrainPass uct g k x hx, if_neg fun c => h.elim (· c.2.1) fun h => c.2.2.elim h.1 h.2]

/-- marked in the rewritten documented example: the residual add (3) and what it is computed from: softmax (2), the
    split's two outputs (8, 7), linear (1), the split (6), `x` (0); so its `linear` (inside the branch) has a later
    residual addition while its `gelu` (4, after the residual add) has none -/
theorem demo_marked : residualMarked (rewritten [] demo) = [3, 2, 8, 1, 7, 6, 0] := by decide +kernel

example : (residualMarked (rewritten [] demo)).contains 1 = true := by
  rw [demo_marked]
  rfl
example : (residualMarked (rewritten [] demo)).contains 4 = false := by
  rw [demo_marked]
  rfl

end USProofs.C16
