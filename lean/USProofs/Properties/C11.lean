/-
  C11 — parameter groups are preserved; weight decay is learning-rate independent.

  Model: `USModel/ScaledParams.lean`.  A tensor learning rate is an address into the heap
  `List ℝ`; the caller's tensors are the cells below `heap.length` at call time.

  Everything about the heap is one invariant, `Grows`: a step takes the heap from `heap` to
  `heap ++ ext`, and the lr cells of the groups it makes for tagged parameters are exactly the
  addresses of `ext`, in order.  It holds of one parameter (`stepParam_spec`), composes
  (`Grows.trans`), hence holds of a group and of the whole call.
-/
import USModel.ScaledParams
import USProofs.RealInst

open USModel

namespace USProofs.C11

variable {k : OptKind} {indep allow : Bool}

-- addresses of the lr cells of the groups produced for tagged parameters
def scaledCells (gs : List (OutGroup ℝ)) : List ℕ :=
  gs.filterMap fun g =>
    match g.param.tag, g.lr with
    | some _, .cell a => some a
    | _, _ => none

theorem scaledCells_append (a b : List (OutGroup ℝ)) :
    scaledCells (a ++ b) = scaledCells a ++ scaledCells b :=
  List.filterMap_append

theorem scaledCells_flt (p : Param) (v w : ℝ) (e : List (String × String)) :
    scaledCells [⟨p, .flt v, w, e⟩] = [] := by
  obtain ⟨_, _ | _, _, _⟩ := p <;> rfl

theorem scaledCells_untagged {p : Param} (h : p.tag = none) (l : LrVal ℝ) (w : ℝ)
    (e : List (String × String)) : scaledCells [⟨p, l, w, e⟩] = [] := by
  obtain ⟨_, _, _, _⟩ := p
  cases h
  rfl

theorem scaledCells_cell {p : Param} {t : MupType} (h : p.tag = some t) (a : ℕ) (w : ℝ)
    (e : List (String × String)) : scaledCells [⟨p, .cell a, w, e⟩] = [a] := by
  obtain ⟨_, _, _, _⟩ := p
  cases h
  rfl

def Grows (heap h' : List ℝ) (gs : List (OutGroup ℝ)) : Prop :=
  ∃ ext, h' = heap ++ ext ∧ scaledCells gs = List.range' heap.length ext.length

namespace Grows

theorem refl (heap : List ℝ) : Grows heap heap [] := ⟨[], (List.append_nil _).symm, rfl⟩

theorem trans {h0 h1 h2 : List ℝ} {gs1 gs2 : List (OutGroup ℝ)} :
    Grows h0 h1 gs1 → Grows h1 h2 gs2 → Grows h0 h2 (gs1 ++ gs2) := by
  rintro ⟨e1, rfl, c1⟩ ⟨e2, rfl, c2⟩
  refine ⟨e1 ++ e2, List.append_assoc .., ?_⟩
  rw [scaledCells_append, c1, c2, List.length_append, List.length_append, List.range'_append_1]

theorem mem {heap h' : List ℝ} {gs : List (OutGroup ℝ)} (h : Grows heap h' gs) {a : ℕ}
    (ha : a ∈ scaledCells gs) : heap.length ≤ a ∧ a < h'.length := by
  obtain ⟨ext, rfl, hc⟩ := h
  rw [hc, List.mem_range'_1] at ha
  rwa [List.length_append]

theorem nodup {heap h' : List ℝ} {gs : List (OutGroup ℝ)} (h : Grows heap h' gs) :
    (scaledCells gs).Nodup := by
  obtain ⟨ext, -, hc⟩ := h
  exact hc ▸ List.nodup_range' (h := Nat.one_pos)

end Grows

theorem stepParam_spec {glr : LrVal ℝ} {gwd : ℝ} {extra : List (String × String)}
    {heap h' : List ℝ} {p : Param} {g : OutGroup ℝ}
    (h : stepParam k indep allow glr gwd extra heap p = .ok (h', g)) :
    g.param = p ∧ g.extra = extra ∧
    (∃ v, lrValue h' g.lr = some v ∧ g.wd = if indep then gwd / v else gwd) ∧
    Grows heap h' [g] := by
  unfold stepParam at h
  split at h
  · rename_i t ht  -- tagged
    obtain ⟨s, -, h⟩ := except_bind_eq_ok.mp h
    split at h
    · cases h  -- float lr: heap unchanged
      exact ⟨rfl, rfl, ⟨_, rfl, rfl⟩, [], (List.append_nil _).symm, scaledCells_flt ..⟩
    · split at h  -- tensor lr
      · cases h  -- its cell is not on the heap: error
      · cases h  -- the scaled copy is the one new cell, at `heap.length`
        exact ⟨rfl, rfl, ⟨_, List.getElem?_concat_length .., rfl⟩, [_], rfl, scaledCells_cell ht ..⟩
  · rename_i ht  -- untagged
    split at h
    · split at h  -- allowed: the group's lr as it is
      · cases h  -- a cell that is not on the heap: error
      · rename_i v hv
        cases h
        exact ⟨rfl, rfl, ⟨v, hv, rfl⟩, [], (List.append_nil _).symm, scaledCells_untagged ht ..⟩
    · cases h  -- rejected: error

theorem stepParams_spec {glr : LrVal ℝ} {gwd : ℝ} {extra : List (String × String)}
    (ps : List Param) {heap h' : List ℝ} {gs : List (OutGroup ℝ)}
    (h : stepParams k indep allow glr gwd extra heap ps = .ok (h', gs)) :
    gs.map (·.param) = ps ∧ (∀ g ∈ gs, g.extra = extra) ∧ Grows heap h' gs := by
  induction ps generalizing heap gs with
  | nil => cases h; exact ⟨rfl, List.forall_mem_nil _, .refl _⟩
  | cons p ps ih =>
    obtain ⟨⟨h1, g⟩, hp, h⟩ := except_bind_eq_ok.mp h
    obtain ⟨⟨h2, gs'⟩, hps, h⟩ := except_bind_eq_ok.mp h
    cases h
    obtain ⟨sp, se, -, sg⟩ := stepParam_spec hp
    obtain ⟨ip, ie, ig⟩ := ih hps
    exact ⟨by rw [List.map_cons, sp, ip], List.forall_mem_cons.mpr ⟨se, ie⟩, sg.trans ig⟩

theorem stepEntry_spec {lr : Option (LrVal ℝ)} {wd : ℝ} {heap h' : List ℝ} {e : Entry ℝ}
    {gs : List (OutGroup ℝ)} (h : stepEntry k indep allow lr wd heap e = .ok (h', gs)) :
    ∃ glr gwd extra, stepParams k indep allow glr gwd extra heap (entryParams e) = .ok (h', gs)
      ∧ ∀ g, e = .group g → extra = g.extra := by
  simp only [stepEntry] at h
  split at h
  · cases h
  · cases e with
    | bare p => exact ⟨_, _, _, h, fun _ hg => nomatch hg⟩
    | group g => exact ⟨_, _, _, h, fun _ hg => by cases hg; rfl⟩

theorem scaledParameters_spec {lr : Option (LrVal ℝ)} {wd : ℝ} (es : List (Entry ℝ))
    {heap h' : List ℝ} {gs : List (OutGroup ℝ)}
    (h : scaledParameters k indep allow lr wd heap es = .ok (h', gs)) :
    gs.map (·.param) = es.flatMap entryParams ∧ Grows heap h' gs := by
  induction es generalizing heap gs with
  | nil => cases h; exact ⟨rfl, .refl _⟩
  | cons e es ih =>
    obtain ⟨⟨h1, g1⟩, he, h⟩ := except_bind_eq_ok.mp h
    obtain ⟨⟨h2, g2⟩, hes, h⟩ := except_bind_eq_ok.mp h
    cases h
    obtain ⟨_, _, _, hps, -⟩ := stepEntry_spec he
    obtain ⟨sp, -, sg⟩ := stepParams_spec _ hps
    obtain ⟨ip, ig⟩ := ih hes
    exact ⟨by rw [List.map_append, sp, ip, List.flatMap_cons], sg.trans ig⟩

/-- Every input parameter exactly once, in input order, one per group, and the caller's
    heap cells are unchanged (the result heap extends the input heap). -/
theorem params_preserved {lr : Option (LrVal ℝ)} {wd : ℝ} (es : List (Entry ℝ))
    {heap h' : List ℝ} {gs : List (OutGroup ℝ)}
    (h : scaledParameters k indep allow lr wd heap es = .ok (h', gs)) :
    gs.map (·.param) = es.flatMap entryParams ∧ ∃ ext, h' = heap ++ ext :=
  let ⟨hp, ext, he, _⟩ := scaledParameters_spec es h
  ⟨hp, ext, he⟩

theorem input_heap_unchanged {lr : Option (LrVal ℝ)} {wd : ℝ} (es : List (Entry ℝ))
    {heap h' : List ℝ} {gs : List (OutGroup ℝ)}
    (h : scaledParameters k indep allow lr wd heap es = .ok (h', gs))
    (a : ℕ) (ha : a < heap.length) : h'[a]? = heap[a]? := by
  obtain ⟨_, ext, rfl⟩ := params_preserved es h
  exact List.getElem?_append_left ha

theorem keys_carried {lr : Option (LrVal ℝ)} {wd : ℝ} {heap h' : List ℝ} (g : PGroup ℝ)
    {gs : List (OutGroup ℝ)}
    (h : stepEntry k indep allow lr wd heap (.group g) = .ok (h', gs)) :
    ∀ o ∈ gs, o.extra = g.extra := by
  obtain ⟨glr, gwd, extra, hs, he⟩ := stepEntry_spec h
  rw [← he g rfl]
  exact (stepParams_spec _ hs).2.1

/-- No aliasing between scaled groups, nor with the caller (here within one source group). -/
theorem scaled_lr_fresh {glr : LrVal ℝ} {gwd : ℝ} {extra : List (String × String)}
    (ps : List Param) {heap h' : List ℝ} {gs : List (OutGroup ℝ)}
    (h : stepParams k indep allow glr gwd extra heap ps = .ok (h', gs)) :
    (scaledCells gs).Nodup ∧ ∀ a ∈ scaledCells gs, heap.length ≤ a :=
  have hg := (stepParams_spec ps h).2.2
  ⟨hg.nodup, fun _ ha => (hg.mem ha).1⟩

/-- With independent weight decay the produced group satisfies `lr' × weight_decay' = wd`
    for every non-zero scaled learning rate. -/
theorem wd_independent {glr : LrVal ℝ} {gwd : ℝ} {extra : List (String × String)}
    {heap h' : List ℝ} {p : Param} {g : OutGroup ℝ}
    (h : stepParam k true allow glr gwd extra heap p = .ok (h', g))
    (v : ℝ) (hv : lrValue h' g.lr = some v) (hv0 : v ≠ 0) : v * g.wd = gwd := by
  obtain ⟨-, -, ⟨v', hv', hwd⟩, -⟩ := stepParam_spec h
  cases hv.symm.trans hv'
  rw [hwd, if_pos rfl, mul_div_cancel₀ gwd hv0]

theorem wd_passthrough {glr : LrVal ℝ} {gwd : ℝ} {extra : List (String × String)}
    {heap h' : List ℝ} {p : Param} {g : OutGroup ℝ}
    (h : stepParam k false allow glr gwd extra heap p = .ok (h', g)) : g.wd = gwd := by
  obtain ⟨-, -, ⟨_, -, hwd⟩, -⟩ := stepParam_spec h
  exact hwd

theorem sgd_zero_step (lr wd' w p : ℝ) (h : lr * wd' = w) :
    sgdZeroStep lr wd' p = (1 - w) * p := by
  rw [sgdZeroStep, nat_real, Nat.cast_zero, zero_add, ← mul_assoc, h, one_sub_mul]

theorem adamw_zero_step (lr wd' eps w p : ℝ) (h : lr * wd' = w) :
    adamwZeroStep lr wd' eps p = (1 - w) * p := by
  rw [adamwZeroStep, nat_real, nat_real, Nat.cast_zero, Nat.cast_one, zero_div, mul_zero, sub_zero, h,
    mul_comm]

theorem iterate_eq_pow_mul {f : ℝ → ℝ} {c : ℝ} (hf : ∀ p, f p = c * p) (n : ℕ) (p : ℝ) :
    f^[n] p = c ^ n * p := by
  rw [funext hf, mul_left_iterate]

theorem sgd_zero_steps (lr wd' w p : ℝ) (h : lr * wd' = w) (n : ℕ) :
    (sgdZeroStep lr wd')^[n] p = (1 - w) ^ n * p :=
  iterate_eq_pow_mul (fun p => sgd_zero_step lr wd' w p h) n p

example :
    ∃ h' gs, scaledParameters (α := ℝ) .adam true false (some (.cell 0)) 0.1 [0.5]
      [.bare ⟨0, some .bias, [3], none⟩, .bare ⟨1, some .output, [3, 4], none⟩] = .ok (h', gs) :=
  ⟨_, _, rfl⟩

end USProofs.C11
