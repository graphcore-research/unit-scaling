/-
  C17 — nesting at the graph level: running the unit-scaling backend and then the quantisation backend on any
  well-formed FX graph gives a well-formed graph, with the same number of nodes as the unit-scaled graph.
-/
import USModel.SimFormat
import USModel.UnitScale
import USProofs.Properties.C15WellFormed
import USProofs.Properties.C16WellFormed

open USModel

namespace USProofs.C17

theorem nest_wellformed (user : List (String × String)) (uct : List String) (fwd bwd : Fmt) (g0 : Graph)
    (hw : g0.wellFormed = true) :
    Graph.wellFormed (simulateBackend fwd bwd (unitScaleBackend user uct g0)) = true :=
  USProofs.C15.simulate_wellformed fwd bwd _ (USProofs.C16.backend_wellformed user uct g0 hw)

theorem nest_length (user : List (String × String)) (uct : List String) (fwd bwd : Fmt) (g0 : Graph) :
    (simulateBackend fwd bwd (unitScaleBackend user uct g0)).length = (unitScaleBackend user uct g0).length :=
  List.length_map _

end USProofs.C17
