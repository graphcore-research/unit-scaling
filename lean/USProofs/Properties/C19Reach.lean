/-
  C19 — bypassing a removed node preserves producer-to-consumer reachability among the surviving nodes, in the
  whole graph (any size, any nesting of the arguments).

  `Reach g a b` (C16Deps.lean) is "b is computed from a".  When the removed node `id` has the single input `r`
  (a view / reshape / negation / dtype cast — the same-scale and non-float cases with one input) then for all
  surviving `a`, `b`:   Reach g a b ↔ Reach (pruneNode g id (some r)) a b   (`bypass_reach_iff`).
  The consumer-level statement (`prune_inputs`, C19.lean) needs no assumption on the removed node: each consumer keeps all
  its other inputs and gets `r` wherever it had `id`.
-/
import USModel.Prune
import USProofs.Properties.C19
import USProofs.Properties.C16Deps

open USModel
open USProofs.C16 (Reach)

namespace USProofs.C19

/-- a bypass (removed node with the single input `r`) preserves reachability: whatever surviving `b` was computed
    from surviving `a` still is.  `hr`: the removed node is not its own input, so `r` survives and the induction
    hypothesis for paths that end in a surviving node applies to it. -/
theorem bypass_preserves_reach (g : IGraph) (id r : Nat) (hr : r ≠ id)
    (hin : ∀ x ∈ g, x.id = id → ∀ c ∈ x.n.inputs, c = r) {a b : Nat} (ha : a ≠ id) (h : Reach g a b) :
    (b ≠ id → Reach (pruneNode g id (some r)) a b) ∧ (b = id → a = r ∨ Reach (pruneNode g id (some r)) a r) := by
  induction h with
  | @direct x a hx hax =>
    refine ⟨fun hb => ?_, fun hb => Or.inl (hin x hx hb a hax)⟩
    exact Reach.direct (x := rewired id (some r) x) ((mem_prune ..).mpr ⟨x, hx, hb, rfl⟩)
      ((prune_inputs id r x a).mpr (Or.inl ⟨hax, ha⟩))
  | @trans x a c hx hcx _ ih =>
    obtain ⟨ih1, ih2⟩ := ih ha
    refine ⟨fun hb => ?_, fun hb => Or.inr ?_⟩
    swap
    · obtain rfl := hin x hx hb c hcx
      exact ih1 hr
    have hm : rewired id (some r) x ∈ pruneNode g id (some r) := (mem_prune ..).mpr ⟨x, hx, hb, rfl⟩
    by_cases hc : c = id
    · -- the path went through the removed node: it now goes through `r`
      have hrin : r ∈ (rewired id (some r) x).n.inputs := (prune_inputs id r x r).mpr (Or.inr ⟨rfl, hc ▸ hcx⟩)
      rcases ih2 hc with e | hr'
      · rw [e]; exact Reach.direct (x := rewired id (some r) x) hm hrin
      · exact Reach.trans (x := rewired id (some r) x) hm hrin hr'
    · exact Reach.trans (x := rewired id (some r) x) hm ((prune_inputs id r x c).mpr (Or.inl ⟨hcx, hc⟩)) (ih1 hc)

/-- … and a bypass creates no new reachability: the replacement was already an input of the removed node, so every
    new edge `r → consumer` was a path `r → id → consumer` before -/
theorem bypass_no_new_reach (g : IGraph) (id r : Nat) (n : INode) (hn : n ∈ g) (hnid : n.id = id)
    (hrn : r ∈ n.n.inputs) {a b : Nat} (h : Reach (pruneNode g id (some r)) a b) : Reach g a b := by
  refine h.of_edges fun y hy c hc => ?_
  obtain ⟨x, hx, -, rfl⟩ := (mem_prune ..).mp hy
  rcases (prune_inputs id r x c).mp hc with ⟨hcx, -⟩ | ⟨rfl, hidx⟩
  · exact .direct (x := x) hx hcx
  · exact .trans (x := x) hx hidx (hnid ▸ .direct hn hrn)

theorem bypass_reach_iff (g : IGraph) (id r : Nat) (hr : r ≠ id) (n : INode) (hn : n ∈ g) (hnid : n.id = id)
    (hrn : r ∈ n.n.inputs) (hin : ∀ x ∈ g, x.id = id → ∀ c ∈ x.n.inputs, c = r)
    (a b : Nat) (ha : a ≠ id) (hb : b ≠ id) :
    Reach (pruneNode g id (some r)) a b ↔ Reach g a b :=
  ⟨bypass_no_new_reach g id r n hn hnid hrn, fun h => (bypass_preserves_reach g id r hr hin ha h).1 hb⟩

/-- after a cut nothing is reachable *through* the removed node any more, and nothing new is reachable -/
theorem cut_no_new_reach (g : IGraph) (id : Nat) {a b : Nat} (h : Reach (pruneNode g id none) a b) : Reach g a b := by
  refine h.of_edges fun y hy c hc => ?_
  obtain ⟨x, hx, -, rfl⟩ := (mem_prune ..).mp hy
  exact .direct (x := x) hx ((cut_inputs id x c).mp hc).1

-- `x -> view -> cat([view, x])`: the view (single input) is bypassed
def g3 : IGraph :=
  [⟨0, { op := "placeholder", target := "x", args := [], kwargs := [] }⟩,
   ⟨1, { op := "call_method", target := "view", args := [.ref 0, .lit "-1"], kwargs := [] }⟩,
   ⟨2, { op := "call_function", target := "torch.cat", args := [.seq false [.ref 1, .ref 0]], kwargs := [("dim", .lit "0")] }⟩]

example : Reach g3 0 2 :=
  Reach.trans (x := g3[2]'(by decide)) (List.getElem_mem _) (c := 1) (by decide +kernel)
    (Reach.direct (x := g3[1]'(by decide)) (List.getElem_mem _) (by decide +kernel))
example : ∀ x ∈ g3, x.id = 1 → ∀ c ∈ x.n.inputs, c = 0 := by decide +kernel
example : ((pruneNode g3 1 (some 0)).map fun x => (x.id, x.n.inputs)) = [(0, []), (2, [0])] := by decide +kernel

end USProofs.C19
