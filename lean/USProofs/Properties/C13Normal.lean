/-
  C13 — the format's normal range, E ≤ 7 (bias `2^(E-1) ≤ 127`), for the definition the driver executes.  On a magnitude
  pattern `n ≤ absmaxBits E M` whose down-scaled image is a normal float32 (`expo n > d`, `d = 127 − 2^(E-1)`: the inputs
  at or above the format's smallest normal number) the four stages of `quantMag` are the integer rounding core on the
  input's own bit pattern (`quantMag_normal_core`): scaling down by `2^d` shifts the exponent field by a multiple of the
  grid spacing, which commutes with the core, and the rounded pattern stays in the closed binade, so scaling back is
  exact.  The laws below are laws of `roundCore` read through that equation.
-/
import USProofs.Properties.C13Value

open USModel USModel.F32

namespace USProofs.C13

theorem quantMag_normal_eq (E M off n : ℕ) (hB : 2 ^ (E - 1) ≤ 127)
    (hmax : n ≤ absmaxBits E M) (hnorm : 127 - 2 ^ (E - 1) < expo n) :
    quantMag E M off n = mulPow2 (roundCore (23 - M) off (n - (127 - 2 ^ (E - 1)) * 2 ^ 23)) (127 - 2 ^ (E - 1)) := by
  rw [quantMag_is_core E M off n hB, Nat.min_eq_left hmax, divPow2_high hnorm]

/-- in range because the maximum is a grid point, normal because the start of the input's binade is one -/
theorem roundCore_in_range {E M off n : ℕ} (hM : M ≤ 23) (hoff : off < 2 ^ (23 - M)) (hmax : n ≤ absmaxBits E M)
    (hnorm : 127 - 2 ^ (E - 1) < expo n) :
    roundCore (23 - M) off n ≤ absmaxBits E M ∧ 127 - 2 ^ (E - 1) < expo (roundCore (23 - M) off n) :=
  ⟨roundCore_le_of_dvd hoff (absmax_facts E M hM).1 hmax,
    hnorm.trans_le (expo_le_roundCore n (Nat.sub_le 23 M) hoff)⟩

theorem quantMag_normal_core (E M off n : ℕ) (hE : 1 ≤ E) (hB : 2 ^ (E - 1) ≤ 127) (hM : M ≤ 23)
    (hoff : off < 2 ^ (23 - M)) (hmax : n ≤ absmaxBits E M) (hnorm : 127 - 2 ^ (E - 1) < expo n) :
    quantMag E M off n = roundCore (23 - M) off n := by
  obtain ⟨hra, hrn⟩ := roundCore_in_range hM hoff hmax hnorm
  have hov : expo (roundCore (23 - M) off n) < 255 :=
    Nat.lt_of_le_of_lt ((expo_mono hra).trans (expo_absmax_le hB hM)) (by decide)
  rw [quantMag_normal_eq E M off n hB hmax hnorm,
    roundCore_sub_multiple (two_pow_k_dvd_shift M _) (le_expo_iff.mp hnorm.le)]
  -- the down-shifted rounded pattern is normal, and shifting it back does not overflow
  have h1 : 1 ≤ expo (roundCore (23 - M) off n - (127 - 2 ^ (E - 1)) * 2 ^ 23) := by
    rw [expo_sub]; exact Nat.sub_pos_of_lt hrn
  have h2 : expo (roundCore (23 - M) off n - (127 - 2 ^ (E - 1)) * 2 ^ 23) + (127 - 2 ^ (E - 1)) < 255 := by
    rwa [expo_sub, Nat.sub_add_cancel hrn.le]
  rw [mulPow2_normal _ _ h1 h2, Nat.sub_add_cancel (le_expo_iff.mp hrn.le)]

section laws
variable (E M : ℕ) (hE : 1 ≤ E) (hB : 2 ^ (E - 1) ≤ 127) (hM : M ≤ 23)
include hE hB hM

/-- `FPFormat.quantise` returns representable inputs (discarded bits zero) unchanged. -/
theorem quantise_fixes_representable (off n : ℕ) (hoff : off < 2 ^ (23 - M))
    (hmax : n ≤ absmaxBits E M) (hnorm : 127 - 2 ^ (E - 1) < expo n) (hrep : 2 ^ (23 - M) ∣ n) :
    quantMag E M off n = n := by
  rw [quantMag_normal_core E M off n hE hB hM hoff hmax hnorm, round_core_fixes _ _ _ hoff hrep]

/-- The result is representable, does not exceed the format's maximum and stays at or above its smallest normal value. -/
theorem quantise_result_representable (off n : ℕ) (hoff : off < 2 ^ (23 - M))
    (hmax : n ≤ absmaxBits E M) (hnorm : 127 - 2 ^ (E - 1) < expo n) :
    2 ^ (23 - M) ∣ quantMag E M off n ∧ quantMag E M off n ≤ absmaxBits E M ∧
      127 - 2 ^ (E - 1) < expo (quantMag E M off n) := by
  rw [quantMag_normal_core E M off n hE hB hM hoff hmax hnorm]
  exact ⟨round_core_multiple _ _ _, roundCore_in_range hM hoff hmax hnorm⟩

/-- Saturation: every magnitude at or beyond the format's maximum, infinity included, gives the maximum. -/
theorem quantise_saturates (off n : ℕ) (hoff : off < 2 ^ (23 - M)) (hn : absmaxBits E M ≤ n) :
    quantMag E M off n = absmaxBits E M := by
  obtain ⟨hamax, hanorm⟩ := absmax_facts E M hM
  -- the maximum is representable, so it is its own result: write the right side as that result; both sides clip to the maximum
  rw [← quantise_fixes_representable E M hE hB hM off _ hoff le_rfl hanorm hamax]
  simp only [quantMag, Nat.min_eq_right hn, Nat.min_self]

end laws

/-- One of the two representable neighbours, for nearest rounding and every stochastic draw (C14's "always one of the
    two neighbours"). -/
theorem quantise_neighbour (E M off n : ℕ) (hE : 1 ≤ E) (hB : 2 ^ (E - 1) ≤ 127) (hM : M ≤ 23)
    (hoff : off < 2 ^ (23 - M)) (hmax : n ≤ absmaxBits E M) (hnorm : 127 - 2 ^ (E - 1) < expo n) :
    quantMag E M off n = n / 2 ^ (23 - M) * 2 ^ (23 - M) ∨
    quantMag E M off n = (n / 2 ^ (23 - M) + 1) * 2 ^ (23 - M) := by
  rw [quantMag_normal_core E M off n hE hB hM hoff hmax hnorm]
  exact round_core_neighbour _ _ _ hoff

/-- nearest rounding breaks ties toward zero -/
theorem quantise_tie_down (E M n : ℕ) (hE : 1 ≤ E) (hB : 2 ^ (E - 1) ≤ 127) (hM : M ≤ 22)
    (hmax : n ≤ absmaxBits E M) (hnorm : 127 - 2 ^ (E - 1) < expo n)
    (htie : n % 2 ^ (23 - M) = 2 ^ (23 - M - 1)) :
    quantMag E M (offNearest M) n = n / 2 ^ (23 - M) * 2 ^ (23 - M) := by
  have hM' : M ≤ 23 := hM.trans (by decide)
  rw [quantMag_normal_core E M _ n hE hB hM' (offNearest_lt M) hmax hnorm]
  have h := round_core_tie_down (23 - M) n (Nat.le_sub_of_add_le' (Nat.succ_le_succ hM)) (Nat.sub_le 23 M) htie
  rwa [Nat.sub_sub_self hM'] at h

theorem val_grid_pattern {E M r : ℕ} (hB : 2 ^ (E - 1) ≤ 127) (hM : M ≤ 23) (hr : 127 - 2 ^ (E - 1) < expo r)
    (hdvd : 2 ^ (23 - M) ∣ r) : ∃ m, m < 2 ^ M ∧ val r = fmtVal E M (expo r - (127 - 2 ^ (E - 1))) m := by
  obtain ⟨hlo, hhi⟩ := expo_bounds r
  obtain ⟨m, hm⟩ := Nat.dvd_sub hdvd (two_pow_k_dvd_shift M (expo r))
  have hr_eq : r = expo r * 2 ^ 23 + m * 2 ^ (23 - M) := by rw [Nat.mul_comm m, ← hm, Nat.add_sub_cancel' hlo]
  have hm' : m < 2 ^ M := by
    refine Nat.lt_of_mul_lt_mul_right (a := 2 ^ (23 - M)) ?_
    rw [pow_mul_pow_sub 2 hM, Nat.mul_comm, ← hm]
    exact Nat.sub_lt_left_of_lt_add hlo (by rwa [Nat.succ_mul] at hhi)
  refine ⟨m, hm', ?_⟩
  conv_lhs => rw [hr_eq]
  exact val_eq_fmtVal E M _ m hB hM hr hm'

section values
variable (E M n : ℕ) (hE : 1 ≤ E) (hB : 2 ^ (E - 1) ≤ 127) (hM : M ≤ 23)
  (hmax : n ≤ absmaxBits E M) (hnorm : 127 - 2 ^ (E - 1) < expo n)

include hE hB hM hmax hnorm

/-- The quantised value is within half a format spacing of the input; the spacing of the format at the input's binade is
    `2^(23−M) · 2^(expo n − 150)`. -/
theorem quantise_value_error :
    |val (quantMag E M (offNearest M) n) - val n|
      ≤ ((2 ^ (23 - M) / 2 : ℕ) : ℚ) * (2 : ℚ) ^ ((expo n : ℤ) - 150) := by
  obtain ⟨hlo, hhi⟩ := expo_bounds n
  rw [quantMag_normal_core E M _ n hE hB hM (offNearest_lt M) hmax hnorm]
  have := round_nearest_value (23 - M) (expo n) n (Nat.sub_le 23 M) (Nat.zero_lt_of_lt hnorm) hlo hhi
  rwa [Nat.sub_sub_self hM] at this

/-- The result is a value of the format, possibly the first value of the next binade (when the mantissa rounds up to 2). -/
theorem quantise_format_value :
    ∃ e'' m', 1 ≤ e'' ∧ m' < 2 ^ M ∧ val (quantMag E M (offNearest M) n) = fmtVal E M e'' m' := by
  obtain ⟨hdvd, _, hr⟩ := quantise_result_representable E M hE hB hM _ n (offNearest_lt M) hmax hnorm
  obtain ⟨m, hm, hv⟩ := val_grid_pattern hB hM hr hdvd
  exact ⟨_, m, Nat.sub_pos_of_lt hr, hm, hv⟩

end values

-- E4M3: the input 1.1 (0x3F8CCCCD) is in range and normal after down-scaling
example : (0x3F8CCCCD : ℕ) ≤ absmaxBits 4 3 ∧ 127 - 2 ^ (4 - 1) < expo 0x3F8CCCCD := by decide
-- … and is quantised to 1.125 = 0x3F900000
example : quantMag 4 3 (offNearest 3) 0x3F8CCCCD = 0x3F900000 := by decide

-- E4M3, a tie: 1.0625 (0x3F880000), midway between the representable 1.0 and 1.125, is in range, normal and not representable
example : (0x3F880000 : ℕ) ≤ absmaxBits 4 3 ∧ 127 - 2 ^ (4 - 1) < expo 0x3F880000 ∧ ¬ 2 ^ (23 - 3) ∣ (0x3F880000 : ℕ) ∧
    2 ^ (23 - 3) ∣ (0x3F800000 : ℕ) := by
  refine ⟨by decide, by decide, by decide, by decide⟩

end USProofs.C13
