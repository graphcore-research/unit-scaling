/-
  C04 — nonlinear ops stay near unit scale across their hyper-parameter range  (PARTIAL).

  What the library contributes is the scale function: a logarithmic interpolation between two
  limits with weight `1/(1 + c/mult²)`, `V/√(V−1)` for cross-entropy, `√(norm/numel)` for norms.
  Proved here: the structure of those functions (bounds, monotonicity, end-points) and exact unit
  scale at the analytic limits.  The numerical bands over continuous hyper-parameter ranges need
  verified enclosures of Gaussian moments of erf-type functions, which Mathlib does not provide;
  they are evaluated numerically by the harness (Gauss–Hermite / fixed-seed Monte-Carlo) and
  `band_partial` records the band with the moment function as an explicit hypothesis.
-/
import USProofs.RealInst
import USProofs.Properties.C03
import Mathlib.Tactic.Linarith

open USModel

namespace USProofs.C04

theorem alphaOf_real (c m : ℝ) : alphaOf c m = 1 / (1 + c / (m * m)) := by
  simp only [alphaOf, real_model]

theorem logInterp_real (a lo hi : ℝ) :
    logInterp a lo hi = Real.exp (a * Real.log hi + (1 - a) * Real.log lo) := by
  simp only [logInterp, real_model]

theorem alpha_mem (c m : ℝ) (hc : 0 < c) (hm : m ≠ 0) : 0 < alphaOf c m ∧ alphaOf c m < 1 := by
  have hq : 0 < c / (m * m) := div_pos hc (mul_self_pos.mpr hm)
  have h1 : 0 < 1 + c / (m * m) := add_pos one_pos hq
  rw [alphaOf_real]
  exact ⟨one_div_pos.2 h1, (div_lt_one h1).2 (lt_add_of_pos_right 1 hq)⟩

/-- the weight increases with `mult > 0`: small `mult` selects the lower limit, large the upper one -/
theorem alpha_mono (c m m' : ℝ) (hc : 0 < c) (hm : 0 < m) (hmm : m < m') : alphaOf c m < alphaOf c m' := by
  have h1 : 0 < m * m := mul_pos hm hm
  have h2 : m * m < m' * m' := mul_self_lt_mul_self hm.le hmm
  rw [alphaOf_real, alphaOf_real]
  exact one_div_lt_one_div_of_lt (add_pos one_pos (div_pos hc (h1.trans h2)))
    (add_lt_add_right (div_lt_div_of_pos_left hc h1 h2) 1)

theorem logInterp_eq (a lo hi : ℝ) (hlo : 0 < lo) (hhi : 0 < hi) :
    logInterp a lo hi = hi ^ a * lo ^ (1 - a) := by
  rw [logInterp_real, Real.exp_add, Real.rpow_def_of_pos hhi, Real.rpow_def_of_pos hlo, mul_comm a,
    mul_comm (1 - a)]

theorem logInterp_zero (lo hi : ℝ) (hlo : 0 < lo) : logInterp 0 lo hi = lo := by
  rw [logInterp_real, zero_mul, zero_add, sub_zero, one_mul, Real.exp_log hlo]
theorem logInterp_one (lo hi : ℝ) (hhi : 0 < hi) : logInterp 1 lo hi = hi := by
  rw [logInterp_real, one_mul, sub_self, zero_mul, add_zero, Real.exp_log hhi]

theorem logInterp_between (a lo hi : ℝ) (ha0 : 0 ≤ a) (ha1 : a ≤ 1) (hlo : 0 < lo) (hhi : 0 < hi) :
    min lo hi ≤ logInterp a lo hi ∧ logInterp a lo hi ≤ max lo hi := by
  -- the exponent is a convex combination of `log hi` and `log lo`; `exp` is monotone
  have hb : 0 ≤ 1 - a := sub_nonneg.2 ha1
  have hab : a + (1 - a) = 1 := add_sub_cancel a 1
  have h1 := Real.exp_monotone (Convex.min_le_combo (Real.log hi) (Real.log lo) ha0 hb hab)
  have h2 := Real.exp_monotone (Convex.combo_le_max (Real.log hi) (Real.log lo) ha0 hb hab)
  rw [Real.exp_monotone.map_min, Real.exp_log hhi, Real.exp_log hlo, min_comm] at h1
  rw [Real.exp_monotone.map_max, Real.exp_log hhi, Real.exp_log hlo, max_comm] at h2
  rw [logInterp_real]
  exact ⟨h1, h2⟩

theorem logInterp_mono (a a' lo hi : ℝ) (h : a ≤ a') (hlo : 0 < lo) (hhi : 0 < hi) (hle : lo ≤ hi) :
    logInterp a lo hi ≤ logInterp a' lo hi := by
  rw [logInterp_real, logInterp_real]
  -- the exponents differ by `(a' - a) * (log hi - log lo)`
  have := mul_nonneg (sub_nonneg.2 h) (sub_nonneg.2 (Real.log_le_log hlo hle))
  exact Real.exp_le_exp.2 (by linarith)

/-- cross-entropy, uniform logits: the logit gradient `softmax − onehot` has one entry `(1−V)/V` and
    `V−1` entries `1/V` per row, mean square `(V−1)/V²`; times the scale squared is exactly 1. -/
theorem ce_uniform_exact (b V : ℕ) (hV : 2 ≤ V) (mean : Bool) (s : ℝ)
    (hs : (crossEntropyScales (α := ℝ) b V mean).bwd = [s]) :
    s ^ 2 * (((V : ℝ) - 1) / (V : ℝ) ^ 2) = 1 := by
  obtain rfl := List.singleton_inj.1 hs
  have h1 : (0 : ℝ) < (V : ℝ) - 1 := sub_pos.2 (Nat.one_lt_cast.2 hV)
  have hV' : (V : ℝ) ≠ 0 := Nat.cast_ne_zero.2 (Nat.ne_zero_of_lt hV)
  simp only [real_model]
  rw [Nat.cast_sub (Nat.one_le_of_lt hV), Nat.cast_one, div_pow, Real.sq_sqrt h1.le,
    div_mul_div_cancel₀ h1.ne', div_self (pow_ne_zero 2 hV')]

/-- softmax, flat limit (`mult → 0`): every output is `1/n`; the lower limit of the scale is `n` -/
theorem softmax_flat_exact (n : ℕ) (hn : 0 < n) : ((n : ℝ) * (1 / (n : ℝ))) ^ 2 = 1 := by
  rw [mul_one_div_cancel (Nat.cast_ne_zero.2 hn.ne'), one_pow]

/-- softmax, one-hot limit (`mult → ∞`): one output 1, the rest 0: mean square `1/n`; upper limit `√n` -/
theorem softmax_onehot_exact (n : ℕ) (hn : 0 < n) : (powHalf (n : ℝ)) ^ 2 * (1 / (n : ℝ)) = 1 := by
  rw [powHalf_real, sq_sqrt_mul_inv (Nat.cast_pos.2 hn)]

/-- attention, flat non-causal limit: the output is the mean of `seq` unit-variance rows (variance
    `1/seq`); the scale's lower limit `√(1/seq)` is divided out. -/
theorem sdpa_flat_noncausal_exact (n : ℕ) (hn : 0 < n) :
    (1 / powHalf ((1 : ℝ) / (n : ℝ))) ^ 2 * (1 / (n : ℝ)) = 1 := by
  rw [powHalf_real, sq_inv_sqrt_mul (one_div_pos.2 (Nat.cast_pos.2 hn))]

theorem norm_grad_scale (normNumel rows : ℕ) (hn : 0 < normNumel) (hr : 0 < rows) :
    C03.UnitScaled (normScales (α := ℝ) normNumel (rows * normNumel)) (normTerms normNumel (rows * normNumel)) :=
  C03.norm_unit_scale normNumel rows hn hr

/-- Partial.  If `σ(m)` is the true output standard deviation of the unscaled op at
    temperature `m` (a Gaussian moment — hypothesis) and the model scale times `σ` stays within
    `ε` of 1 on the range, then so does the scaled op.  The hypothesis is what the harness evaluates
    numerically; it is not proved. -/
theorem band_partial (σ scale : ℝ → ℝ) (ε : ℝ) (lo hi : ℝ)
    (h : ∀ m, lo ≤ m → m ≤ hi → |scale m * σ m - 1| ≤ ε) :
    ∀ m, lo ≤ m → m ≤ hi → 1 - ε ≤ scale m * σ m ∧ scale m * σ m ≤ 1 + ε := fun m h1 h2 =>
  have ⟨hu, hl⟩ := abs_sub_le_iff.1 (h m h1 h2)
  ⟨sub_le_comm.1 hl, sub_le_iff_le_add'.1 hu⟩

end USProofs.C04
