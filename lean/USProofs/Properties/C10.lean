/-
  C10 — optimizer learning rates follow the u-μP rule for every type, shape, depth.

  Model: `USModel/Optim.lean` (`fanIn`, `lrScaleDepth`, `lrScaleAdam`, `lrScaleSgdOut`) and
  `USModel/ScaledParams.lean` (`stepParam`, `stepEntry`).  Statements over ℝ, for all shapes
  (every list of naturals), all tags, depth `none` or any natural.
-/
import USModel.ScaledParams
import USProofs.RealInst

open USModel

namespace USProofs.C10

-- the u-μP depth factor: 1 when no depth is recorded, `1/√depth` otherwise
noncomputable def depthFactor : Option ℕ → ℝ
  | none => 1
  | some d => 1 / Real.sqrt d

theorem lrScaleDepth_eq (d : Option ℕ) : (lrScaleDepth d : ℝ) = depthFactor d := by
  cases d with
  | none => exact Nat.cast_one
  | some d => exact powNegHalf_real _

theorem fanIn_rank1 (a : ℕ) : fanIn [a] = .ok a := rfl
theorem fanIn_rank2 (a b : ℕ) : fanIn [a, b] = .ok b := rfl
theorem fanIn_rank3 (a b c : ℕ) : fanIn [a, b, c] = .ok (b * c) := rfl
theorem fanIn_rank0 : fanIn [] = .error .valueError := rfl
theorem fanIn_rank_ge4 (s : List ℕ) (h : 4 ≤ s.length) : fanIn s = .error .valueError := by
  match s, h with
  | _ :: _ :: _ :: _ :: _, _ => rfl

theorem lr_adam_weight (shape : List ℕ) (f : ℕ) (h : fanIn shape = .ok f) (d : Option ℕ) :
    lrScaleAdam (α := ℝ) .weight shape d = .ok (depthFactor d * (1 / Real.sqrt f)) := by
  simp only [lrScaleAdam, h, real_model, lrScaleDepth_eq]

theorem lr_adam_other (t : MupType) (ht : t ≠ .weight) (shape : List ℕ) (d : Option ℕ) :
    lrScaleAdam (α := ℝ) t shape d = .ok (depthFactor d) := by
  cases t with
  | weight => exact absurd rfl ht
  | _ => exact congrArg Except.ok (lrScaleDepth_eq d)

/-- SGD with `readout_constraint=None` uses the Adam rule (it is `lr_scale_func_adam`). -/
theorem lr_sgd_none_is_adam (t : MupType) (shape : List ℕ) (d : Option ℕ) :
    lrScale (α := ℝ) .adam t shape d = lrScaleAdam t shape d := rfl

theorem lr_sgd_out_weight (shape : List ℕ) (f : ℕ) (h : fanIn shape = .ok f) (d : Option ℕ) :
    lrScaleSgdOut (α := ℝ) .weight shape d = .ok (depthFactor d * Real.sqrt f) := by
  simp only [lrScaleSgdOut, h, real_model, lrScaleDepth_eq]

theorem lr_sgd_out_vector (t : MupType) (ht : t = .bias ∨ t = .norm) (n : ℕ) (rest : List ℕ)
    (d : Option ℕ) :
    lrScaleSgdOut (α := ℝ) t (n :: rest) d = .ok (depthFactor d * n) := by
  rcases ht with rfl | rfl <;> simp only [lrScaleSgdOut, real_model, lrScaleDepth_eq]

theorem lr_sgd_out_output (shape : List ℕ) (d : Option ℕ) :
    lrScaleSgdOut (α := ℝ) .output shape d = .ok (depthFactor d) :=
  congrArg Except.ok (lrScaleDepth_eq d)

theorem weight_rank_ge4_error (k : OptKind) (shape : List ℕ) (h : 4 ≤ shape.length)
    (d : Option ℕ) : lrScale (α := ℝ) k .weight shape d = .error .valueError := by
  cases k <;>
    simp only [lrScale, lrScaleAdam, lrScaleSgdOut, fanIn_rank_ge4 shape h, except_bind_error]

theorem missing_lr_error (k : OptKind) (indep allow : Bool) (wd : ℝ) (heap : List ℝ)
    (e : Entry ℝ) (h : (match e with | .bare _ => none | .group g => g.lr) = none) :
    stepEntry k indep allow none wd heap e = .error .valueError := by
  cases e with
  | bare p => rfl
  | group g =>
    have h : g.lr = none := h
    simp only [stepEntry, h, Option.orElse]

theorem untagged_rejected (k : OptKind) (indep : Bool) (glr : LrVal ℝ) (gwd : ℝ)
    (extra : List (String × String)) (heap : List ℝ) (p : Param) (h : p.tag = none) :
    stepParam k indep false glr gwd extra heap p = .error .valueError := by
  simp only [stepParam, h, Bool.false_eq_true, ↓reduceIte]

theorem untagged_allowed_unscaled (k : OptKind) (indep : Bool) (glr : LrVal ℝ) (gwd : ℝ)
    (extra : List (String × String)) (heap : List ℝ) (p : Param) (h : p.tag = none)
    (v : ℝ) (hv : lrValue heap glr = some v) :
    ∃ wd', stepParam k indep true glr gwd extra heap p = .ok (heap, ⟨p, glr, wd', extra⟩) := by
  simp only [stepParam, h, hv]
  exact ⟨_, rfl⟩

theorem tagged_float_lr (k : OptKind) (indep allow : Bool) (v gwd : ℝ)
    (extra : List (String × String)) (heap : List ℝ) (p : Param) (t : MupType)
    (ht : p.tag = some t) (s : ℝ) (hs : lrScale k t p.shape p.depth = .ok s) :
    ∃ wd', stepParam k indep allow (.flt v) gwd extra heap p
      = .ok (heap, ⟨p, .flt (v * s), wd', extra⟩) := by
  simp only [stepParam, ht, hs]
  exact ⟨_, rfl⟩

theorem tagged_tensor_lr (k : OptKind) (indep allow : Bool) (a : ℕ) (gwd : ℝ)
    (extra : List (String × String)) (heap : List ℝ) (p : Param) (t : MupType)
    (ht : p.tag = some t) (s : ℝ) (hs : lrScale k t p.shape p.depth = .ok s)
    (v : ℝ) (hv : heap[a]? = some v) :
    ∃ wd', stepParam k indep allow (.cell a) gwd extra heap p
      = .ok (heap ++ [v * s], ⟨p, .cell heap.length, wd', extra⟩) := by
  simp only [stepParam, ht, hs, except_bind_ok, hv]
  exact ⟨_, rfl⟩

theorem group_lr_overrides (k : OptKind) (indep allow : Bool) (lr : Option (LrVal ℝ)) (wd : ℝ)
    (heap : List ℝ) (g : PGroup ℝ) (x : LrVal ℝ) (h : g.lr = some x) :
    stepEntry k indep allow lr wd heap (.group g)
      = stepParams k indep allow x (g.wd.getD wd) g.extra heap g.params := by
  simp only [stepEntry, h, Option.orElse]

theorem global_lr_used (k : OptKind) (indep allow : Bool) (x : LrVal ℝ) (wd : ℝ)
    (heap : List ℝ) (g : PGroup ℝ) (h : g.lr = none) :
    stepEntry k indep allow (some x) wd heap (.group g)
      = stepParams k indep allow x (g.wd.getD wd) g.extra heap g.params := by
  simp only [stepEntry, h, Option.orElse]

example : fanIn [64, 3, 5] = .ok 15 := rfl
example : lrScaleAdam (α := ℝ) .weight [64, 3, 5] (some 7)
    = .ok (depthFactor (some 7) * (1 / Real.sqrt (15 : ℕ))) := lr_adam_weight _ _ rfl _

end USProofs.C10
