/-
  Topological order of id-graphs (used by C16Deps, C16Topo, C19Topo).

  Three formulations are in use: `Topo` (every split of the node list), `TopoL` (on the id list) and the run-time
  check `IGraph.topoB`.  All three are `TopoFrom []`, the recursion that `topoB` runs with the ids defined so far
  as a parameter (`topo_iff_topoFrom`, `topoL_iff_topoFrom`, `topoB_iff`); a positional graph read as an id-graph has
  the order iff it is well formed (`topoFrom_zipIdx`, `topo_ofGraph`).  An edit of a graph
  is shown to preserve `TopoFrom` by one induction along the list: a map (`TopoFrom.map`) and an insertion
  (`TopoFrom.insert`) here, `_prune` in C19Topo.lean (`topoFrom_pruneNode`).
-/
import USModel.UnitScale
import USProofs.Properties.C16Refs
import Mathlib.Data.List.Nodup
import Mathlib.Data.List.Induction

open USModel

namespace USProofs.C16

def ids (g : IGraph) : List Nat := g.map (·.id)

def BeforeL (l : List Nat) (a b : Nat) : Prop := ∃ p s, l = p ++ b :: s ∧ a ∈ p

def TopoL (g : IGraph) : Prop :=
  (ids g).Nodup ∧ ∀ x ∈ g, ∀ a ∈ x.n.inputs, BeforeL (ids g) a x.id

/-- topological order with distinct ids.  The second clause alone says the same (`topo_iff`); the first only makes
    `Topo []` reduce to `True`. -/
def Topo : IGraph → Prop
  | [] => True
  | g => ∀ p x s, g = p ++ x :: s → (∀ a ∈ x.n.inputs, ∃ y ∈ p, y.id = a) ∧ (∀ y ∈ p, y.id ≠ x.id)

/-- what `IGraph.topoB` checks, the ids defined so far being `seen` -/
def TopoFrom (seen : List Nat) : IGraph → Prop
  | [] => True
  | x :: g => (x.id ∉ seen ∧ ∀ a ∈ x.n.inputs, a ∈ seen) ∧ TopoFrom (x.id :: seen) g

theorem topoFrom_append {seen : List Nat} {p s : IGraph} :
    TopoFrom seen (p ++ s) ↔ TopoFrom seen p ∧ TopoFrom ((ids p).reverse ++ seen) s := by
  induction p generalizing seen with
  | nil => simp only [List.nil_append, TopoFrom, ids, List.map_nil, List.reverse_nil, true_and]
  | cons x p ih =>
    simp only [List.cons_append, TopoFrom, ih, ids, and_assoc, List.map_cons, List.reverse_cons, List.append_assoc,
      List.nil_append]

theorem TopoFrom.nodup {seen : List Nat} {g : IGraph} (h : TopoFrom seen g) :
    (ids g).Nodup ∧ ∀ x ∈ g, x.id ∉ seen := by
  induction g generalizing seen with
  | nil => simp [ids]
  | cons x g ih =>
    obtain ⟨hn, hs⟩ := ih h.2
    refine ⟨List.nodup_cons.mpr ⟨fun hx => ?_, hn⟩, ?_⟩
    · obtain ⟨y, hy, e⟩ := List.mem_map.mp hx
      exact hs y hy (by simp [e])
    · simp only [List.mem_cons, forall_eq_or_imp]
      exact ⟨h.1.1, fun y hy hc => hs y hy (List.mem_cons_of_mem _ hc)⟩

/-- a map that keeps ids and gives a node no input that is neither one of its own nor already defined preserves
    the order; `seen` may grow by ids that do not occur in the graph -/
theorem TopoFrom.map {seen seen' : List Nat} {g : IGraph} (F : INode → INode) (hid : ∀ x, (F x).id = x.id)
    (hs : ∀ a ∈ seen, a ∈ seen') (hnew : ∀ x ∈ g, x.id ∈ seen' → x.id ∈ seen)
    (hin : ∀ x ∈ g, ∀ a ∈ (F x).n.inputs, a ∈ x.n.inputs ∨ a ∈ seen') (h : TopoFrom seen g) :
    TopoFrom seen' (g.map F) := by
  induction g generalizing seen seen' with
  | nil => trivial
  | cons x g ih =>
    simp only [List.mem_cons, forall_eq_or_imp] at hnew hin
    refine ⟨⟨hid x ▸ fun hc => h.1.1 (hnew.1 hc), fun a ha => (hin.1 a ha).elim (fun ha => hs a (h.1.2 a ha)) id⟩, ?_⟩
    rw [hid]
    refine ih (fun a ha => ?_) (fun y hy hc => ?_) (fun y hy a ha => ?_) h.2
    · exact (List.mem_cons.mp ha).elim (fun e => e ▸ List.mem_cons_self) (fun ha => List.mem_cons_of_mem _ (hs a ha))
    · exact (List.mem_cons.mp hc).elim (fun e => e ▸ List.mem_cons_self) (fun hc => List.mem_cons_of_mem _ (hnew.2 y hy hc))
    · exact (hin.2 y hy a ha).imp id (List.mem_cons_of_mem _)

theorem TopoFrom.mono {seen seen' : List Nat} {g : IGraph} (hs : ∀ a ∈ seen, a ∈ seen')
    (hnew : ∀ x ∈ g, x.id ∈ seen' → x.id ∈ seen) (h : TopoFrom seen g) : TopoFrom seen' g := by
  simpa using h.map id (fun _ => rfl) hs hnew (fun _ _ _ ha => Or.inl ha)

theorem TopoFrom.insert {seen : List Nat} {p s : IGraph} {z : INode} (h : TopoFrom seen (p ++ s))
    (hz : z.id ∉ seen) (hzp : z.id ∉ ids p) (hzs : z.id ∉ ids s) (hin : ∀ a ∈ z.n.inputs, a ∈ seen ∨ a ∈ ids p) :
    TopoFrom seen (p ++ z :: s) := by
  rw [topoFrom_append] at h ⊢
  refine ⟨h.1, ⟨fun hc => ?_, fun a ha => ?_⟩, ?_⟩
  · exact (List.mem_append.mp hc).elim (fun hc => hzp (List.mem_reverse.mp hc)) hz
  · exact List.mem_append.mpr ((hin a ha).symm.imp_left List.mem_reverse.mpr)
  · refine h.2.mono (fun a ha => List.mem_cons_of_mem _ ha) (fun x hx hc => ?_)
    exact (List.mem_cons.mp hc).elim (fun e => absurd (List.mem_map.mpr ⟨x, hx, e⟩) hzs) id

theorem topoFrom_iff {seen : List Nat} {g : IGraph} : TopoFrom seen g ↔ ∀ p x s, g = p ++ x :: s →
    (x.id ∉ seen ∧ ∀ a ∈ x.n.inputs, a ∈ seen ∨ a ∈ ids p) ∧ x.id ∉ ids p := by
  constructor
  · rintro h p x s rfl
    obtain ⟨-, ⟨hx, hin⟩, -⟩ := topoFrom_append.mp h
    simp only [List.mem_append, List.mem_reverse, not_or] at hx hin
    exact ⟨⟨hx.2, fun a ha => (hin a ha).symm⟩, hx.1⟩
  · intro h
    induction g using List.reverseRecOn with
    | nil => trivial
    | append_singleton p x ih =>
      obtain ⟨⟨hx, hin⟩, hp⟩ := h p x [] rfl
      refine topoFrom_append.mpr ⟨ih fun q y s e => h q y (s ++ [x]) (by simp [e]), ⟨?_, fun a ha => ?_⟩, trivial⟩
      · simp [hx, hp]
      · simpa [or_comm] using hin a ha

theorem topo_iff {g : IGraph} :
    Topo g ↔ ∀ p x s, g = p ++ x :: s → (∀ a ∈ x.n.inputs, ∃ y ∈ p, y.id = a) ∧ (∀ y ∈ p, y.id ≠ x.id) := by
  cases g with
  | nil => exact ⟨fun _ p x s e => (List.append_ne_nil_of_right_ne_nil _ (List.cons_ne_nil _ _) e.symm).elim, fun _ => trivial⟩
  | cons a t => exact Iff.rfl

theorem topo_iff_topoFrom {g : IGraph} : Topo g ↔ TopoFrom [] g := by
  rw [topo_iff, topoFrom_iff]
  refine forall_congr' fun p => forall_congr' fun x => forall_congr' fun s => imp_congr_right fun _ => ?_
  simp only [ne_eq, List.not_mem_nil, not_false_eq_true, ids, List.mem_map, false_or, true_and, not_exists, not_and]

theorem topo_snoc {p : IGraph} {x : INode} :
    Topo (p ++ [x]) ↔ Topo p ∧ (∀ a ∈ x.n.inputs, a ∈ ids p) ∧ x.id ∉ ids p := by
  simp only [topo_iff_topoFrom, topoFrom_append, TopoFrom, List.append_nil, List.mem_reverse, and_comm, true_and]

/-- in a list without duplicates the place of an element is unique -/
theorem beforeL_iff {l p s : List Nat} {b : Nat} (hn : l.Nodup) (e : l = p ++ b :: s) (a : Nat) :
    BeforeL l a b ↔ a ∈ p := by
  subst e
  have hb := List.nodup_middle.mp hn
  simp only [List.nodup_cons, List.mem_append, not_or] at hb
  constructor
  · rintro ⟨p', s', e', ha⟩
    rwa [((List.append_cons_inj_of_notMem hb.1.1 hb.1.2).mp e').1]
  · exact fun ha => ⟨p, s, rfl, ha⟩

theorem topoL_iff_topoFrom {g : IGraph} : TopoL g ↔ TopoFrom [] g := by
  constructor
  · rintro ⟨hn, hin⟩
    refine topoFrom_iff.mpr fun p x s e => ?_
    have hi : ids g = ids p ++ x.id :: ids s := by simp [e, ids]
    have hx : x.id ∉ ids p := fun hc => by
      rw [hi] at hn
      exact (List.nodup_append.mp hn).2.2 _ hc _ List.mem_cons_self rfl
    exact ⟨⟨List.not_mem_nil, fun a ha => Or.inr ((beforeL_iff hn hi a).mp (hin x (by simp [e]) a ha))⟩, hx⟩
  · intro h
    refine ⟨h.nodup.1, fun x hx a ha => ?_⟩
    obtain ⟨p, s, e⟩ := List.append_of_mem hx
    have := (topoFrom_iff.mp h p x s e).1.2 a ha
    exact ⟨ids p, ids s, by simp [e, ids], by simpa using this⟩

theorem topoL_iff_topo {g : IGraph} : TopoL g ↔ Topo g := topoL_iff_topoFrom.trans topo_iff_topoFrom.symm

theorem topoFrom_zipIdx (g : Graph) (k : Nat) (seen : List Nat) (hs : ∀ i, i ∈ seen ↔ i < k) :
    TopoFrom seen ((g.zipIdx k).map fun (n, i) => ⟨i, n⟩) ↔
      ((g.zipIdx k).all fun (n, i) => n.inputs.all (· < i)) = true := by
  induction g generalizing k seen with
  | nil => exact iff_of_true trivial rfl
  | cons n g ih =>
    have := ih (k + 1) (k :: seen) fun i => by rw [List.mem_cons, hs, Nat.lt_succ_iff_lt_or_eq, or_comm]
    simp only [List.zipIdx_cons, List.map_cons, TopoFrom, hs, Nat.lt_irrefl, not_false_eq_true, true_and, this,
      List.all_eq_true, decide_eq_true_eq, List.all_cons, Bool.and_eq_true]

theorem topo_ofGraph_iff (g : Graph) : Topo (IGraph.ofGraph g) ↔ g.wellFormed = true :=
  topo_iff_topoFrom.trans (topoFrom_zipIdx g 0 [] (by simp))

theorem topo_ofGraph (g : Graph) (h : g.wellFormed = true) : Topo (IGraph.ofGraph g) :=
  (topo_ofGraph_iff g).mpr h

theorem topoL_ofGraph (g : Graph) (hw : g.wellFormed = true) : TopoL (IGraph.ofGraph g) :=
  topoL_iff_topo.mpr (topo_ofGraph g hw)

theorem topoB_fold (g : IGraph) (seen : List Nat) (b : Bool) :
    (g.foldl (fun (st : List Nat × Bool) x =>
      (x.id :: st.1, st.2 && !st.1.contains x.id && x.n.inputs.all (st.1.contains ·))) (seen, b)).2 = true ↔
      b = true ∧ TopoFrom seen g := by
  induction g generalizing seen b with
  | nil => exact (and_iff_left trivial).symm
  | cons x g ih =>
    rw [List.foldl_cons, ih]
    simp only [List.contains_eq_mem, Bool.and_eq_true, Bool.not_eq_eq_eq_not, Bool.not_true,
      decide_eq_false_iff_not, List.all_eq_true, decide_eq_true_eq, and_assoc, TopoFrom]

/-- the run-time check `topoB`, which the driver reports on each graph the correspondence sees, decides `Topo`;
    `rewritten_topo` (C16Topo.lean) proves `Topo` of every rewritten graph -/
theorem topoB_iff (g : IGraph) : g.topoB = true ↔ Topo g := by
  rw [topo_iff_topoFrom, IGraph.topoB, topoB_fold, and_iff_right rfl]

theorem topoB_sound (g : IGraph) (h : g.topoB = true) : Topo g := (topoB_iff g).mp h

theorem topoL_map {g : IGraph} (f : INode → INode) (hid : ∀ x, (f x).id = x.id)
    (hin : ∀ x ∈ g, ∀ a ∈ (f x).n.inputs, a ∈ x.n.inputs) (h : TopoL g) : TopoL (g.map f) :=
  topoL_iff_topoFrom.mpr ((topoL_iff_topoFrom.mp h).map f hid (fun _ h => h) (fun _ _ h => h)
    fun x hx a ha => Or.inl (hin x hx a ha))

theorem IGraph.get?_mem {g : IGraph} {id : Nat} {x : INode} (h : g.get? id = some x) : x ∈ g ∧ x.id = id :=
  ⟨List.mem_of_find?_eq_some h, by simpa using List.find?_some h⟩

theorem TopoFrom.ne_of_split {seen : List Nat} {p s : IGraph} {y : INode} (h : TopoFrom seen (p ++ y :: s)) :
    ∀ w ∈ p, w.id ≠ y.id := fun w hw e =>
  (topoFrom_iff.mp h p y s rfl).2 (List.mem_map.mpr ⟨w, hw, e⟩)

end USProofs.C16
