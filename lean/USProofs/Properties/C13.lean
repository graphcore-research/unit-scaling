/-
  C13 / C14 — the integer rounding core of `FPFormat.quantise`: `roundCore k off q` is `(bits + offset) & ~mask` on the
  float32 pattern after the down-scaling.  Patterns of one sign are ordered like their values and, inside the format's
  range after down-scaling, the multiples of `2^k` are exactly the patterns of representable values; so the laws of C13
  are stated here on patterns.  At the end: `quantMag` is the core between a down- and an up-scaling (`quantMag_is_core`), and
  what follows from that form alone (`quant_mantissa_bits`, `quantBits_sign`).  The model's stages themselves are compared
  with the library bit for bit by the correspondence (all 2^32 patterns for the FP8 formats in the thorough tier; DESIGN.md).
-/
import USModel.F32
import Mathlib.Algebra.Order.Group.Nat

open USModel USModel.F32

namespace USProofs.C13

/-- The whole core in one equation; every law below is read off it. -/
theorem roundCore_eq (k off q : ℕ) (hoff : off < 2 ^ k) :
    roundCore k off q = if q % 2 ^ k + off < 2 ^ k then q / 2 ^ k * 2 ^ k else (q / 2 ^ k + 1) * 2 ^ k := by
  have hb : q % 2 ^ k < 2 ^ k := Nat.mod_lt _ (Nat.two_pow_pos k)
  have : (q + off) / 2 ^ k = q / 2 ^ k + (q % 2 ^ k + off) / 2 ^ k := by
    conv_lhs => rw [← Nat.div_add_mod q (2 ^ k), Nat.add_assoc, Nat.mul_add_div (Nat.two_pow_pos k)]
  unfold roundCore
  rw [this]
  split_ifs with h
  · rw [Nat.div_eq_of_lt h, Nat.add_zero]
  · rw [Nat.div_eq_of_lt_le ((Nat.one_mul _).trans_le (Nat.le_of_not_lt h))
      ((Nat.add_lt_add hb hoff).trans_eq (Nat.two_mul _).symm)]

theorem roundCore_zero (k q : ℕ) : roundCore k 0 q = q / 2 ^ k * 2 ^ k := rfl

/-- the result is representable (`roundCore` unfolds to `_ * 2^k`) -/
theorem round_core_multiple (k off q : ℕ) : 2 ^ k ∣ roundCore k off q :=
  Nat.dvd_mul_left _ _

/-- `offset < 2^k` holds for nearest rounding and for every stochastic draw -/
theorem round_core_neighbour (k off q : ℕ) (hoff : off < 2 ^ k) :
    roundCore k off q = (q / 2 ^ k) * 2 ^ k ∨ roundCore k off q = (q / 2 ^ k + 1) * 2 ^ k := by
  rw [roundCore_eq k off q hoff]
  exact ite_eq_or_eq _ _ _

theorem round_core_fixes (k off q : ℕ) (hoff : off < 2 ^ k) (hq : 2 ^ k ∣ q) :
    roundCore k off q = q := by
  rw [roundCore_eq k off q hoff, Nat.mod_eq_zero_of_dvd hq, Nat.zero_add, if_pos hoff, Nat.div_mul_cancel hq]

theorem round_core_idempotent (k off q : ℕ) (hoff : off < 2 ^ k) :
    roundCore k off (roundCore k off q) = roundCore k off q :=
  round_core_fixes k off _ hoff (round_core_multiple k off q)

theorem round_core_monotone (k off q q' : ℕ) (h : q ≤ q') : roundCore k off q ≤ roundCore k off q' :=
  Nat.mul_le_mul_right _ (Nat.div_le_div_right (Nat.add_le_add_right h off))

theorem roundCore_le_of_dvd {k off q b : ℕ} (hoff : off < 2 ^ k) (hb : 2 ^ k ∣ b) (h : q ≤ b) : roundCore k off q ≤ b :=
  (round_core_monotone k off q b h).trans_eq (round_core_fixes k off b hoff hb)

theorem le_roundCore_of_dvd {k off q b : ℕ} (hoff : off < 2 ^ k) (hb : 2 ^ k ∣ b) (h : b ≤ q) : b ≤ roundCore k off q :=
  (round_core_fixes k off b hoff hb).symm.trans_le (round_core_monotone k off b q h)

/-- shifting the exponent field is adding a multiple of the spacing -/
theorem roundCore_add_multiple (k off q a : ℕ) (ha : 2 ^ k ∣ a) :
    roundCore k off (q + a) = roundCore k off q + a := by
  obtain ⟨t, rfl⟩ := ha
  unfold roundCore
  rw [Nat.add_right_comm, Nat.add_mul_div_left _ _ (Nat.two_pow_pos k), Nat.add_mul, Nat.mul_comm t]

theorem roundCore_sub_multiple {k off q a : ℕ} (ha : 2 ^ k ∣ a) (h : a ≤ q) :
    roundCore k off (q - a) = roundCore k off q - a :=
  Nat.eq_sub_of_add_eq (by rw [← roundCore_add_multiple k off _ a ha, Nat.sub_add_cancel h])

theorem offNearest_lt (M : ℕ) : offNearest M < 2 ^ (23 - M) :=
  Nat.lt_of_le_of_lt (Nat.div_le_self _ _) (Nat.sub_lt (Nat.two_pow_pos _) Nat.one_pos)

theorem offNearest_sub {k : ℕ} (hk : k ≤ 23) : offNearest (23 - k) = (2 ^ k - 1) / 2 := by
  rw [offNearest, Nat.sub_sub_self hk]

theorem offNearest_lt' {k : ℕ} (hk : k ≤ 23) : offNearest (23 - k) < 2 ^ k := by
  have := offNearest_lt (23 - k)
  rwa [Nat.sub_sub_self hk] at this

/-- The result is `q + off` minus a remainder below `2^k`. Every round-to-nearest is of this kind with `h` half the
    spacing, whatever its rule for ties. -/
theorem roundCore_within {k off h : ℕ} (q : ℕ) (h1 : off ≤ h) (h2 : 2 ^ k ≤ off + h + 1) :
    roundCore k off q ≤ q + h ∧ q ≤ roundCore k off q + h := by
  have hm := Nat.mod_lt (q + off) (Nat.two_pow_pos k)
  have hq : roundCore k off q + (q + off) % 2 ^ k = q + off := Nat.div_add_mod' _ _
  omega

theorem nearestOff_add_half {P : ℕ} (hP : 0 < P) : (P - 1) / 2 + P / 2 + 1 = P := by omega

/-- nearest, ties toward zero: the offset is `(2^k − 1)/2` -/
theorem roundCore_near (k q : ℕ) :
    roundCore k ((2 ^ k - 1) / 2) q ≤ q + 2 ^ k / 2 ∧ q ≤ roundCore k ((2 ^ k - 1) / 2) q + 2 ^ k / 2 :=
  roundCore_within q (Nat.div_le_div_right (Nat.sub_le _ _)) (nearestOff_add_half (Nat.two_pow_pos k)).ge

theorem round_core_nearest (k q : ℕ) :
    let r := roundCore k (offNearest (23 - k)) q
    (k ≤ 23 → r ≤ q + 2 ^ k / 2 ∧ q ≤ r + 2 ^ k / 2) :=
  fun hk => by rw [offNearest_sub hk]; exact roundCore_near k q

/-- an exact tie goes toward zero -/
theorem round_core_tie_down (k q : ℕ) (hk : 1 ≤ k) (hk' : k ≤ 23) (htie : q % 2 ^ k = 2 ^ (k - 1)) :
    roundCore k (offNearest (23 - k)) q = (q / 2 ^ k) * 2 ^ k := by
  rw [roundCore_eq k _ q (offNearest_lt' hk'), if_pos]
  -- the tie `2^k / 2` and the offset `(2^k − 1) / 2` add up to `2^k − 1`
  rw [htie, Nat.eq_div_of_mul_eq_left two_ne_zero (Nat.two_pow_pred_mul_two hk), offNearest_sub hk', Nat.add_comm]
  exact Nat.lt_of_succ_le (nearestOff_add_half (Nat.two_pow_pos k)).le

/-- `bits + offset` in int32 never carries into the sign bit (`255·2^23` is the infinity pattern) -/
theorem no_sign_carry (k off q : ℕ) (hoff : off < 2 ^ k) (hk : k ≤ 23) (hq : q ≤ 255 * 2 ^ 23) :
    q + off < 2 ^ 31 :=
  (Nat.add_lt_add_of_le_of_lt hq (hoff.trans_le (Nat.pow_le_pow_right Nat.two_pos hk))).trans_eq (by decide)

theorem quantMag_is_core (E M off n : ℕ) (hB : 2 ^ (E - 1) ≤ 127) :
    quantMag E M off n =
      mulPow2 (roundCore (23 - M) off (divPow2 (min n (absmaxBits E M)) (127 - 2 ^ (E - 1)))) (127 - 2 ^ (E - 1)) := by
  simp only [quantMag, if_pos hB]

theorem mulPow2_dvd (k : ℕ) (hk : k ≤ 23) : ∀ (d n : ℕ), 2 ^ k ∣ n → 2 ^ k ∣ mulPow2 n d
  | 0, _, h => h
  | d + 1, n, h => by
    have h23 : 2 ^ k ∣ 2 ^ 23 := Nat.pow_dvd_pow 2 hk
    rw [mulPow2]
    by_cases h0 : n = 0
    · rw [if_pos h0]; exact Nat.dvd_zero _
    by_cases he : expo n = 0
    · rw [if_neg h0, if_pos he]; exact mulPow2_dvd k hk d (2 * n) (Nat.dvd_mul_left_of_dvd h 2)
    by_cases hov : expo n + (d + 1) ≥ 255
    · rw [if_neg h0, if_neg he, if_pos hov]; exact Nat.dvd_mul_left_of_dvd h23 255
    · rw [if_neg h0, if_neg he, if_neg hov]; exact Nat.dvd_add h (Nat.dvd_mul_left_of_dvd h23 (d + 1))

/-- For `E ≤ 7` (`2^(E-1) ≤ 127`) and every rounding offset the result of the model's `quantise` carries at most `M`
    mantissa bits.  (E = 8 is the same statement about `divPow2 … 1`: proved on the property's domain in C13E8.lean, elsewhere
    exercised by the correspondence.) -/
theorem quant_mantissa_bits (E M off n : ℕ) (hB : 2 ^ (E - 1) ≤ 127) :
    2 ^ (23 - M) ∣ quantMag E M off n := by
  rw [quantMag_is_core E M off n hB]
  exact mulPow2_dvd (23 - M) (Nat.sub_le _ _) _ _ (round_core_multiple _ _ _)

theorem mulPow2_normal : ∀ (d n : ℕ), 1 ≤ expo n → expo n + d < 255 → mulPow2 n d = n + d * 2 ^ 23
  | 0, n, _, _ => by rw [mulPow2, Nat.zero_mul, Nat.add_zero]
  | d + 1, n, h1, h2 => by
    have hn : n ≠ 0 := by rintro rfl; exact absurd h1 (by decide)
    rw [mulPow2, if_neg hn, if_neg (Nat.ne_of_gt h1), if_neg (Nat.not_le.mpr h2)]

theorem quantBits_sign (E M off bits : ℕ) (h : quantMag E M off (bits % 2 ^ 31) < 2 ^ 31) :
    quantBits E M off bits / 2 ^ 31 = bits / 2 ^ 31 := by
  rw [quantBits, Nat.add_comm, Nat.add_mul_div_right _ _ (Nat.two_pow_pos 31), Nat.div_eq_of_lt h, Nat.zero_add]

example : roundCore 20 (offNearest 3) 0x3F8CCCCD = 0x3F900000 := by decide  -- 1.1 → 1.125 with M = 3
example : quantBits 4 3 (offNearest 3) 0x3FA66666 = 0x3FA00000 := by decide  -- 1.3 → 1.25 in E4M3
example : quantBits 4 3 (offNearest 3) 0x7F800000 = 0x43700000 := by decide  -- +inf → 240

end USProofs.C13
