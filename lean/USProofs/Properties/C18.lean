/-
  C18 — scale tracking is purely observational: the tracker is the identity in both directions, on any carrier.
  (That its metrics are the true statistics: C18Metrics.lean; the reverse sweep on a DAG: C18Dag.lean.)
-/
import USModel.Track

open USModel

namespace USProofs.C18

section transparency
variable {V : Type}

theorem tracker_is_id : (tracker : DOp V V) = DOp.idOp := rfl

theorem tracker_comp (f : DOp V V) : tracker.comp f = f := rfl

theorem tracker_after (f : DOp V V) (x g : V) :
    (tracker.comp f).fwd x = f.fwd x ∧ (tracker.comp f).vjp x g = f.vjp x g := ⟨rfl, rfl⟩
theorem tracker_before (f : DOp V V) (x g : V) :
    (f.comp tracker).fwd x = f.fwd x ∧ (f.comp tracker).vjp x g = f.vjp x g := ⟨rfl, rfl⟩

theorem instrumentChain_eq (fs : List (DOp V V)) : instrumentChain fs = plainChain fs := by
  induction fs with
  | nil => rfl
  | cons f rest ih => rw [instrumentChain, plainChain, ih, tracker_comp]

/-- purely observational, for chains of any length: the instrumented computation has the same outputs and the same
    input gradient as the plain one -/
theorem track_transparent (fs : List (DOp V V)) (x g : V) :
    (instrumentChain fs).fwd x = (plainChain fs).fwd x ∧
    (instrumentChain fs).vjp x g = (plainChain fs).vjp x g := by
  rw [instrumentChain_eq]; exact ⟨rfl, rfl⟩

/-- what is logged in the forward pass at a node is that node's value -/
theorem track_fwd_value (f : DOp V V) (x g : V) :
    (trackerLog ((tracker.comp f).fwd x) g).1 = f.fwd x := rfl

/-- the logged gradient is the total gradient over all consumers: a tracker placed on a tensor that fans out to two
    consumers receives the sum of their pull-backs -/
theorem track_bwd_total [Add V] (f g1 g2 : DOp V V) (x c : V) :
    ((fanOut g1 g2).comp (tracker.comp f)).vjp x c
      = f.vjp x (g1.vjp (f.fwd x) c + g2.vjp (f.fwd x) c) := rfl
theorem tracker_receives_total [Add V] (g1 g2 : DOp V V) (y c : V) :
    (trackerLog y ((fanOut g1 g2).vjp y c)).2 = g1.vjp y c + g2.vjp y c := rfl
end transparency

end USProofs.C18
