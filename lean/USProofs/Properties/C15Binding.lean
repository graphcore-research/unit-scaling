/-
  C15 — the spliced call binds: the call that `_replace_with_quantised` leaves binds against the quantised
  function's signature, every original operand reaches the parameter of the same name, the formats reach
  `fwd_format_tuple` / `bwd_format_tuple`, and every other option is forwarded unchanged (defect F-C15b
  "bias by keyword" and the `bias`-less `F.linear(x, w)` were failures of this).
  Model: `USModel/CallBinding.lean` + `replaceWithQuantised`.

  Scope (as hypotheses): the tensor operands are positional (2 or 3 for linear, 3 for attention); `U.linear`'s
  `scale_power` is not given (a call carrying it does not bind: `u_linear_scale_power_rejected`).
-/
import USModel.CallBinding
import USModel.SimFormat
import USProofs.Properties.C15

open USModel

namespace USProofs.C15

def splicedArgs (fwd bwd : Fmt) (n : GNode) : List Arg := (replaceWithQuantised fwd bwd n).args
def splicedKw (fwd bwd : Fmt) (n : GNode) : List (String × Arg) := (replaceWithQuantised fwd bwd n).kwargs

theorem lookup_erase_ne (kw : List (String × Arg)) (k k' : String) (h : k ≠ k') :
    lookupKw (eraseKw kw k') k = lookupKw kw k := by
  unfold lookupKw eraseKw
  rw [List.find?_filter]
  congr 2
  funext kv
  by_cases e : kv.1 = k
  · simp [e, h]
  · simp [e]

theorem erase_all_eq (kw : List (String × Arg)) (k : String) (h : ∀ kv ∈ kw, kv.1 = k) : eraseKw kw k = [] :=
  List.filter_eq_nil_iff.mpr fun kv hkv => by simp [h kv hkv]

theorem quantMap_linear :
    quantMap.lookup "F.linear" = some "Q.linear" ∧ quantMap.lookup "U.linear" = some "Q.u_linear" := by
  decide +kernel

theorem spliced3 (fwd bwd : Fmt) {n : GNode} {q : String} {a0 a1 a2 : Arg} (hop : n.op = "call_function")
    (hq : quantMap.lookup n.target = some q) (hargs : n.args = [a0, a1, a2]) :
    splicedArgs fwd bwd n = [a0, a1, a2, fwd.toArg, bwd.toArg] ∧ splicedKw fwd bwd n = n.kwargs := by
  rw [splicedArgs, splicedKw, backend_replaced fwd bwd n q hop hq (by simp [hargs]), hargs]
  exact ⟨rfl, rfl⟩

theorem spliced2 (fwd bwd : Fmt) {n : GNode} {q : String} {a0 a1 : Arg} (hop : n.op = "call_function")
    (hq : quantMap.lookup n.target = some q) (hargs : n.args = [a0, a1]) :
    splicedArgs fwd bwd n = [a0, a1, (lookupKw n.kwargs "bias").getD (.lit "None"), fwd.toArg, bwd.toArg] ∧
      splicedKw fwd bwd n = eraseKw n.kwargs "bias" := by
  rw [splicedArgs, splicedKw, backend_replaced_two_args fwd bwd n q hop hq a0 a1 hargs]
  exact ⟨rfl, rfl⟩

theorem bindCall_eq_some_iff {s : CallSig} {args : List Arg} {kw b : List (String × Arg)} :
    bindCall s args kw = some b ↔
      args.length ≤ s.params.length - s.kwOnly ∧ (∀ kv ∈ kw, kv.1 ∉ s.names.take args.length) ∧
      (s.varKw = false → ∀ kv ∈ kw, kv.1 ∈ s.names) ∧
      ∃ r, bindRest kw (s.params.drop args.length) = some r ∧
        b = (s.names.take args.length).zip args ++ r ++ kw.filter (fun kv => !s.names.contains kv.1) := by
  unfold bindCall
  rw [Option.ite_none_left_eq_some, Option.ite_none_left_eq_some, Option.ite_none_left_eq_some]
  refine and_congr Nat.not_lt (and_congr ?_ (and_congr ?_ ?_))
  · simp only [Bool.not_eq_true, List.any_eq_false, List.contains_iff_mem]
  · simp only [Bool.and_eq_true, Bool.not_eq_true', not_and, Bool.not_eq_true, List.any_eq_false, Bool.not_eq_false,
      List.contains_iff_mem]
  · cases bindRest kw (s.params.drop args.length) with
    | none => exact ⟨nofun, nofun⟩
    | some r => simp only [eq_comm, Option.some.injEq, exists_eq_left']

theorem bindCall_ok (s : CallSig) (args : List Arg) (kw r : List (String × Arg))
    (h1 : args.length ≤ s.params.length - s.kwOnly)
    (h2 : ∀ kv ∈ kw, kv.1 ∉ s.names.take args.length)
    (h3 : s.varKw = false → ∀ kv ∈ kw, kv.1 ∈ s.names)
    (h4 : bindRest kw (s.params.drop args.length) = some r) :
    bindCall s args kw =
      some ((s.names.take args.length).zip args ++ r ++ kw.filter (fun kv => !s.names.contains kv.1)) :=
  bindCall_eq_some_iff.mpr ⟨h1, h2, h3, r, h4, rfl⟩

theorem bindCall_inv {s : CallSig} {args : List Arg} {kw b : List (String × Arg)} (h : bindCall s args kw = some b) :
    args.length ≤ s.params.length - s.kwOnly ∧ (∀ kv ∈ kw, kv.1 ∉ s.names.take args.length) ∧
    (s.varKw = false → ∀ kv ∈ kw, kv.1 ∈ s.names) ∧
    ∃ r, bindRest kw (s.params.drop args.length) = some r ∧
      b = (s.names.take args.length).zip args ++ r ++ kw.filter (fun kv => !s.names.contains kv.1) :=
  bindCall_eq_some_iff.mp h

theorem bindCall_keys_mem {s : CallSig} {args : List Arg} {kw b : List (String × Arg)} (hv : s.varKw = false)
    (h : bindCall s args kw = some b) : ∀ kv ∈ kw, kv.1 ∈ s.names.drop args.length := fun kv hkv => by
  obtain ⟨-, i2, i3, -⟩ := bindCall_inv h
  have := i3 hv kv hkv
  rw [← List.take_append_drop args.length s.names, List.mem_append] at this
  exact this.resolve_left (i2 kv hkv)

/-- `kw.filter fun kv => !names.contains kv.1` is what `bindCall` hands to `**kwargs` -/
theorem filter_not_contains_eq_nil {names : List String} {kw : List (String × Arg)} (h : ∀ kv ∈ kw, kv.1 ∈ names) :
    kw.filter (fun kv => !names.contains kv.1) = [] :=
  List.filter_eq_nil_iff.mpr fun kv hkv => by simpa using h kv hkv

theorem filter_not_contains_eq_self {names : List String} {kw : List (String × Arg)} (h : ∀ kv ∈ kw, kv.1 ∉ names) :
    kw.filter (fun kv => !names.contains kv.1) = kw :=
  List.filter_eq_self.mpr fun kv hkv => by simpa using h kv hkv

theorem bindRest_default (kw : List (String × Arg)) (p : String) (d : Arg) :
    bindRest kw [(p, some d)] = some [(p, (lookupKw kw p).getD d)] := by
  cases h : lookupKw kw p <;> simp [bindRest, h]

def sigFLinear : CallSig := ⟨[("input", none), ("weight", none), ("bias", none_)], false, 0⟩
def sigQLinear : CallSig := ⟨[("input", none), ("weight", none), ("bias", none), ("fwd_format_tuple", none),
                              ("bwd_format_tuple", none)], false, 0⟩
example : callSigOf "F.linear" = some sigFLinear ∧ callSigOf "Q.linear" = some sigQLinear := ⟨rfl, rfl⟩

/-- `F.linear(x, w)` / `F.linear(x, w, bias=b)` (two positionals): the spliced call binds, bias taken from
    the keyword (or `None`), nothing left over. -/
theorem linear2_binds (fwd bwd : Fmt) (n : GNode) (a0 a1 : Arg) (b : List (String × Arg))
    (hop : n.op = "call_function") (ht : n.target = "F.linear") (hargs : n.args = [a0, a1])
    (hb : bindCall sigFLinear n.args n.kwargs = some b) :
    bindCall sigQLinear (splicedArgs fwd bwd n) (splicedKw fwd bwd n) =
      some [("input", a0), ("weight", a1), ("bias", (lookupKw n.kwargs "bias").getD (.lit "None")),
            ("fwd_format_tuple", fwd.toArg), ("bwd_format_tuple", bwd.toArg)] ∧
    b = [("input", a0), ("weight", a1), ("bias", (lookupKw n.kwargs "bias").getD (.lit "None"))] := by
  rw [hargs] at hb
  -- the original call bound, so `bias` is the only keyword it can carry
  have hkeys : ∀ kv ∈ n.kwargs, kv.1 = "bias" := fun kv hkv => List.mem_singleton.mp (bindCall_keys_mem rfl hb kv hkv)
  obtain ⟨-, -, i3, r, hr, rfl⟩ := bindCall_inv hb
  obtain rfl := Option.some.inj (hr.symm.trans (bindRest_default n.kwargs "bias" (.lit "None")))
  obtain ⟨hsa, hsk⟩ := spliced2 fwd bwd hop (ht ▸ quantMap_linear.1) hargs
  rw [hsa, hsk, erase_all_eq _ _ hkeys, filter_not_contains_eq_nil (i3 rfl)]
  -- no keyword is left and the signatures are literals, so `bindCall` on the five positionals and the `zip` evaluate
  exact ⟨by rfl, by rfl⟩

/-- `F.linear(x, w, b)` (three positionals): the spliced call binds -/
theorem linear3_binds (fwd bwd : Fmt) (n : GNode) (a0 a1 a2 : Arg) (b : List (String × Arg))
    (hop : n.op = "call_function") (ht : n.target = "F.linear") (hargs : n.args = [a0, a1, a2])
    (hb : bindCall sigFLinear n.args n.kwargs = some b) :
    bindCall sigQLinear (splicedArgs fwd bwd n) (splicedKw fwd bwd n) =
      some [("input", a0), ("weight", a1), ("bias", a2), ("fwd_format_tuple", fwd.toArg), ("bwd_format_tuple", bwd.toArg)] := by
  rw [hargs] at hb
  -- every parameter is taken positionally, so the original call had no keyword at all
  have hnil : n.kwargs = [] :=
    List.eq_nil_iff_forall_not_mem.mpr fun kv hkv => List.not_mem_nil (bindCall_keys_mem rfl hb kv hkv)
  obtain ⟨hsa, hsk⟩ := spliced3 fwd bwd hop (ht ▸ quantMap_linear.1) hargs
  rw [hsa, hsk, hnil]
  rfl

def sigQSdpa : CallSig := ⟨[("query", none), ("key", none), ("value", none), ("fwd_format_tuple", none),
                        ("bwd_format_tuple", none)], true, 0⟩
example : callSigOf "Q.sdpa" = some sigQSdpa ∧ callSigOf "Q.u_sdpa" = some sigQSdpa := ⟨rfl, rfl⟩

/-- the quantised attention wrapper receives the three operands and the two formats, and every keyword of the
    original call (mask, dropout_p, is_causal, mult, …) is forwarded untouched to the inner attention call
    through `**kwargs` -/
theorem sdpa_binds (fwd bwd : Fmt) (n : GNode) (q : String) (a0 a1 a2 : Arg)
    (hop : n.op = "call_function") (ht : quantMap.lookup n.target = some q) (hargs : n.args = [a0, a1, a2])
    (hk : ∀ kv ∈ n.kwargs, kv.1 ∉ ["query", "key", "value", "fwd_format_tuple", "bwd_format_tuple"]) :
    bindCall sigQSdpa (splicedArgs fwd bwd n) (splicedKw fwd bwd n) =
      some ([("query", a0), ("key", a1), ("value", a2), ("fwd_format_tuple", fwd.toArg), ("bwd_format_tuple", bwd.toArg)]
            ++ n.kwargs) := by
  obtain ⟨hsa, hsk⟩ := spliced3 fwd bwd hop ht hargs
  rw [hsa, hsk, bindCall_ok sigQSdpa [a0, a1, a2, fwd.toArg, bwd.toArg] n.kwargs [] (Nat.le_refl 5) hk nofun rfl,
    filter_not_contains_eq_self (names := sigQSdpa.names) hk]
  rfl

def sigQULinear : CallSig := ⟨[("input", none), ("weight", none), ("bias", none), ("fwd_format_tuple", none),
                           ("bwd_format_tuple", none), ("constraint", some (.lit "'to_output_scale'"))], false, 0⟩
example : callSigOf "Q.u_linear" = some sigQULinear := rfl

/-- `U.linear` as `unit_scale` leaves it in the graph, three positionals and an optional `constraint=` keyword:
    the constraint reaches the wrapper's `constraint` parameter (the default `'to_output_scale'` — `U.linear`'s
    own default — otherwise) -/
theorem u_linear3_binds (fwd bwd : Fmt) (n : GNode) (a0 a1 a2 : Arg)
    (hop : n.op = "call_function") (ht : n.target = "U.linear") (hargs : n.args = [a0, a1, a2])
    (hk : ∀ kv ∈ n.kwargs, kv.1 = "constraint") :
    bindCall sigQULinear (splicedArgs fwd bwd n) (splicedKw fwd bwd n) =
      some [("input", a0), ("weight", a1), ("bias", a2), ("fwd_format_tuple", fwd.toArg), ("bwd_format_tuple", bwd.toArg),
            ("constraint", (lookupKw n.kwargs "constraint").getD (.lit "'to_output_scale'"))] := by
  obtain ⟨hsa, hsk⟩ := spliced3 fwd bwd hop (ht ▸ quantMap_linear.2) hargs
  have hc : "constraint" ∉ sigQULinear.names.take 5 ∧ "constraint" ∈ sigQULinear.names := by decide +kernel
  rw [hsa, hsk, bindCall_ok sigQULinear [a0, a1, a2, fwd.toArg, bwd.toArg] n.kwargs _ (Nat.le_succ 5)
      (fun kv hkv => hk kv hkv ▸ hc.1) (fun _ kv hkv => hk kv hkv ▸ hc.2) (bindRest_default ..),
    filter_not_contains_eq_nil fun kv hkv => hk kv hkv ▸ hc.2]
  rfl

/-- a `U.linear` call that carries `scale_power` cannot be simulated: the quantised wrapper has no such
    parameter and no `**kwargs`, so the spliced call raises `TypeError` (never silently drops it) -/
theorem u_linear_scale_power_rejected (fwd bwd : Fmt) (n : GNode) (a0 a1 a2 v : Arg)
    (hop : n.op = "call_function") (ht : n.target = "U.linear") (hargs : n.args = [a0, a1, a2])
    (hk : n.kwargs = [("scale_power", v)]) :
    bindCall sigQULinear (splicedArgs fwd bwd n) (splicedKw fwd bwd n) = none := by
  obtain ⟨hsa, hsk⟩ := spliced3 fwd bwd hop (ht ▸ quantMap_linear.2) hargs
  rw [hsa, hsk, hk, Option.eq_none_iff_forall_ne_some]
  intro b hb
  have hin : "scale_power" ∈ sigQULinear.names := (bindCall_inv hb).2.2.1 rfl _ List.mem_cons_self
  exact absurd hin (by decide +kernel)

example : (bindCall sigFLinear [.ref 0, .ref 1] [("bias", .ref 2)]).map (·.map fun p => (p.1, p.2.show)) =
    some [("input", "%0"), ("weight", "%1"), ("bias", "%2")] := by decide +kernel
example : (bindCall sigFLinear [.ref 0, .ref 1] [("bais", .ref 2)]).isNone = true := by decide +kernel
example : (bindCall sigFLinear [.ref 0, .ref 1, .ref 2] [("bias", .ref 2)]).isNone = true := by decide +kernel

end USProofs.C15
