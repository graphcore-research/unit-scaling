/-
  C13 — the laws that hold on the whole magnitude range (E ≤ 7), and the range below the format's normal range.

  On every magnitude `quantMag` is the integer core between two scalings, `mulPow2 (roundCore (divPow2 (min n max) d)) d`,
  `d = 127 − 2^(E-1)`; the rounded pattern never overflows when scaled back (`round_no_overflow`), scaling up is exact and
  is undone exactly by scaling down (`divPow2_mulPow2`), and each stage is monotone: so `quantMag` is monotone and
  idempotent everywhere.

  Below the smallest normal value of the format the down-scaling division is itself rounded (to float32's subnormal grid,
  round-to-nearest-even) before the integer core rounds to the format's grid: the property's "no farther than the nearer
  neighbour plus 2^(M-23) of the local spacing (float32 arithmetic)".  In fixed point (`fixOf`, units of 2^-149) the
  result is `roundCore (rneShift (fixOf n) d) · 2^d` (`fixOf_quantMag_sub`); the value statements are casts of that.
-/
import USProofs.Properties.C13Normal

open USModel USModel.F32

namespace USProofs.C13

/-- a power of two up to 127 is at most 64 -/
theorem shift_pos {E : ℕ} (hB : 2 ^ (E - 1) ≤ 127) : 1 ≤ 127 - 2 ^ (E - 1) := by
  rcases Nat.lt_or_ge (E - 1) 7 with h | h
  · exact Nat.le_sub_of_add_le'
      ((Nat.add_le_add_right (Nat.pow_le_pow_right Nat.two_pos (Nat.le_of_lt_succ h)) 1).trans (by decide))
  · exact absurd ((Nat.pow_le_pow_right Nat.two_pos h).trans hB) (by decide)

/-- The down-scaled maximum is a point of the grid, so the rounded pattern does not pass it, and scaling back does not
    overflow to infinity: on every magnitude `quantMag` is the core between two exact, mutually inverse scalings. -/
theorem round_no_overflow {E M off : ℕ} (hB : 2 ^ (E - 1) ≤ 127) (hM : M ≤ 23) (hoff : off < 2 ^ (23 - M)) (n : ℕ) :
    expo (roundCore (23 - M) off (divPow2 (min n (absmaxBits E M)) (127 - 2 ^ (E - 1)))) + (127 - 2 ^ (E - 1)) < 255 := by
  obtain ⟨hamax, hanorm⟩ := absmax_facts E M hM
  have hr := expo_mono (roundCore_le_of_dvd hoff (Nat.dvd_sub hamax (two_pow_k_dvd_shift M _))
    (divPow2_high hanorm ▸ divPow2_mono (127 - 2 ^ (E - 1)) _ _ (shift_pos hB) (min_le_right n (absmaxBits E M))))
  rw [expo_sub] at hr
  exact (Nat.add_le_of_le_sub hanorm.le hr).trans_lt ((expo_absmax_le hB hM).trans_lt (by decide))

/-- Monotone on the whole magnitude range, E ≤ 7, also across the boundary of the normal range and into saturation: each of
    the four stages is monotone. -/
theorem quantise_monotone_all (E M off n n' : ℕ) (hE : 1 ≤ E) (hB : 2 ^ (E - 1) ≤ 127) (hM : M ≤ 23)
    (hoff : off < 2 ^ (23 - M)) (h : n ≤ n') :
    quantMag E M off n ≤ quantMag E M off n' := by
  rw [quantMag_is_core E M off n hB, quantMag_is_core E M off n' hB]
  exact mulPow2_mono _ _ _
    (round_core_monotone _ off _ _ (divPow2_mono _ _ _ (shift_pos hB) (min_le_min_right _ h)))
    (round_no_overflow hB hM hoff n')

section
variable (E M : ℕ) (hE : 1 ≤ E) (hB : 2 ^ (E - 1) ≤ 127) (hM : M ≤ 23)
include hE hB hM

/-- the magnitude of the result fits in 31 bits -/
theorem quantMag_le_absmax (off n : ℕ) (hoff : off < 2 ^ (23 - M)) : quantMag E M off n ≤ absmaxBits E M := by
  have h1 := quantise_monotone_all E M off n (max n (absmaxBits E M)) hE hB hM hoff (le_max_left _ _)
  rwa [quantise_saturates E M hE hB hM off _ hoff (le_max_right _ _)] at h1

/-- Idempotent on the whole magnitude range (NaN patterns are excluded by the property; here they saturate): the result is
    not clipped, scaling it down undoes the scaling up exactly, and the core is idempotent. -/
theorem quantise_idempotent_all (off n : ℕ) (hoff : off < 2 ^ (23 - M)) :
    quantMag E M off (quantMag E M off n) = quantMag E M off n := by
  rw [quantMag_is_core E M off (quantMag E M off n) hB, Nat.min_eq_left (quantMag_le_absmax E M hE hB hM off n hoff),
    quantMag_is_core E M off n hB, divPow2_mulPow2 (round_no_overflow hB hM hoff n), round_core_idempotent _ _ _ hoff]

theorem quantise_idempotent (off n : ℕ) (hoff : off < 2 ^ (23 - M))
    (hmax : n ≤ absmaxBits E M) (hnorm : 127 - 2 ^ (E - 1) < expo n) :
    quantMag E M off (quantMag E M off n) = quantMag E M off n :=
  quantise_idempotent_all E M hE hB hM off n hoff

theorem quantise_monotone (off n n' : ℕ) (hoff : off < 2 ^ (23 - M)) (hle : n ≤ n')
    (hmax' : n' ≤ absmaxBits E M) (hnorm : 127 - 2 ^ (E - 1) < expo n) :
    quantMag E M off n ≤ quantMag E M off n' :=
  quantise_monotone_all E M off n n' hE hB hM hoff hle

end

/-- two roundings in a row: the errors add, the first scaled like its result -/
theorem near_trans {a b c x y D : ℕ} (h1 : a ≤ b + x) (h1' : b ≤ a + x) (h2 : b * D ≤ c + y) (h2' : c ≤ b * D + y) :
    a * D ≤ c + (x * D + y) ∧ c ≤ a * D + (x * D + y) := by
  have m1 := Nat.mul_le_mul_right D h1
  have m1' := Nat.mul_le_mul_right D h1'
  rw [Nat.add_mul] at m1 m1'
  exact ⟨(m1.trans (Nat.add_le_add_right h2 _)).trans_eq (by rw [Nat.add_assoc, Nat.add_comm y]),
    (h2'.trans (Nat.add_le_add_right m1' y)).trans_eq (Nat.add_assoc _ _ _)⟩

/-- the significand and the shift `divPow2` uses below the format's normal range -/
def sigOf (n : ℕ) : ℕ := if expo n = 0 then mant n else 2 ^ 23 + mant n
def shOf (E n : ℕ) : ℕ := (127 - 2 ^ (E - 1)) + 1 - (if expo n = 0 then 1 else expo n)

theorem divPow2_sig {E n : ℕ} (hsub : expo n ≤ 127 - 2 ^ (E - 1)) :
    divPow2 n (127 - 2 ^ (E - 1)) = rneShift (sigOf n) (shOf E n) := by
  simp only [divPow2, gt_iff_lt, if_neg (Nat.not_lt.mpr hsub), sigOf, shOf]

theorem le_absmax_of_sub {E M n : ℕ} (hM : M ≤ 23) (hsub : expo n ≤ 127 - 2 ^ (E - 1)) : n ≤ absmaxBits E M :=
  (lt_of_expo_lt (hsub.trans_lt (absmax_facts E M hM).2)).le

section subnormal
variable (E M n : ℕ) (hE : 1 ≤ E) (hB : 2 ^ (E - 1) ≤ 127) (hM : M ≤ 23)
  (hsub : expo n ≤ 127 - 2 ^ (E - 1))
include hE hB hM hsub

theorem quantMag_sub_eq (off : ℕ) :
    quantMag E M off n =
      mulPow2 (roundCore (23 - M) off (rneShift (sigOf n) (shOf E n))) (127 - 2 ^ (E - 1)) := by
  rw [quantMag_is_core E M off n hB, Nat.min_eq_left (le_absmax_of_sub hM hsub),
    divPow2_sig hsub]

/-- The rounded pattern stays at or below the first normal float32 pattern, where patterns are in units of `2^-149`,
    and the up-scaling is exact. -/
theorem fixOf_quantMag_sub (off : ℕ) (hoff : off < 2 ^ (23 - M)) :
    roundCore (23 - M) off (rneShift (fixOf n) (127 - 2 ^ (E - 1))) ≤ 2 ^ 23 ∧
    fixOf (quantMag E M off n) =
      roundCore (23 - M) off (rneShift (fixOf n) (127 - 2 ^ (E - 1))) * 2 ^ (127 - 2 ^ (E - 1)) := by
  have hr := roundCore_le_of_dvd hoff (Nat.pow_dvd_pow 2 (Nat.sub_le 23 M))
    (divPow2_low n _ hsub ▸ divPow2_low_le n _ hsub)
  rw [quantMag_is_core E M off n hB, fixOf_mulPow2 _ _ (round_no_overflow hB hM hoff n),
    Nat.min_eq_left (le_absmax_of_sub hM hsub), divPow2_low n _ hsub, fixOf_small (hr.trans (Nat.le_add_left _ _))]
  exact ⟨hr, rfl⟩

/-- the format's subnormal spacing is `2^(d+k)` units of `2^-149` -/
theorem fixOf_quantMag_sub_grid (off : ℕ) (hoff : off < 2 ^ (23 - M)) :
    ∃ c, c ≤ 2 ^ M ∧ fixOf (quantMag E M off n) = c * 2 ^ (23 - M) * 2 ^ (127 - 2 ^ (E - 1)) := by
  obtain ⟨hr, hfix⟩ := fixOf_quantMag_sub E M n hE hB hM hsub off hoff
  obtain ⟨c, hc⟩ := round_core_multiple (23 - M) off (rneShift (fixOf n) (127 - 2 ^ (E - 1)))
  rw [hc, Nat.mul_comm _ c] at hr hfix
  exact ⟨c, Nat.le_of_mul_le_mul_right (by rwa [pow_mul_pow_sub 2 hM]) (Nat.two_pow_pos (23 - M)), hfix⟩

/-- The result is a value of the format: a subnormal `m·2^(1-B-M)` with `m ≤ 2^M` (`m = 2^M` is the smallest
    normal value). -/
theorem quantise_sub_format_value (off : ℕ) (hoff : off < 2 ^ (23 - M)) :
    ∃ m : ℕ, m ≤ 2 ^ M ∧ val (quantMag E M off n) = (m : ℚ) * (2 : ℚ) ^ ((1 : ℤ) - (2 ^ (E - 1) : ℕ) - M) := by
  obtain ⟨c, hc, hfix⟩ := fixOf_quantMag_sub_grid E M n hE hB hM hsub off hoff
  refine ⟨c, hc, ?_⟩
  rw [val_eq_fix, hfix, cast_mul_two_pow, cast_mul_two_pow, Nat.cast_sub hM, Nat.cast_sub hB]
  congr 2
  ring

/-- Below the normal range the error is at most half the format's (constant) subnormal spacing
    `2^(1-B-M)`, plus half a float32-subnormal ulp of the down-scaled input — i.e. `2^(M-23)/2` of that spacing. -/
theorem quantise_sub_value_error :
    |val (quantMag E M (offNearest M) n) - val n|
      ≤ (((2 ^ (23 - M) / 2 : ℕ) : ℚ) + 1 / 2) * (2 : ℚ) ^ ((-149 : ℤ) + ((127 - 2 ^ (E - 1) : ℕ) : ℤ)) := by
  have hd := shift_pos hB
  obtain ⟨-, hfix⟩ := fixOf_quantMag_sub E M n hE hB hM hsub _ (offNearest_lt M)
  rw [offNearest] at hfix
  -- two roundings, in units of `2^-149`: `q` of the exact quotient (float32's division), `r` of `q` (the core)
  obtain ⟨n1, n2⟩ := rneShift_near (fixOf n) (127 - 2 ^ (E - 1)) hd
  obtain ⟨h1, h2⟩ := roundCore_near (23 - M) (rneShift (fixOf n) (127 - 2 ^ (E - 1)))
  -- the two errors add up, still in ℕ: `(2^k/2)·2^d` from the core and `2^(d-1)` from the division
  obtain ⟨k1, k2⟩ := near_trans h1 h2 n1 n2
  have key := abs_natCast_sub_mul_le k1 k2 (two_zpow_pos (-149)).le
  have e1 : ((127 - 2 ^ (E - 1) - 1 : ℕ) : ℤ) + -149 = -1 + (-149 + ((127 - 2 ^ (E - 1) : ℕ) : ℤ)) := by
    rw [Nat.cast_sub hd]; ring
  rw [sub_mul, ← hfix, ← val_eq_fix, ← val_eq_fix] at key
  refine key.trans_eq ?_
  -- `((2^k/2)·2^d + 2^(d-1))·2^-149 = (2^k/2 + 1/2)·2^(-149+d)`
  rw [Nat.cast_add, add_mul, cast_mul_two_pow, cast_two_pow, ← two_zpow_add, e1, two_zpow_add (-1), zpow_neg_one,
    add_comm (_ : ℤ) (-149), ← add_mul, one_div]

end subnormal

section
variable (E M : ℕ) (hE : 1 ≤ E) (hB : 2 ^ (E - 1) ≤ 127) (hM : M ≤ 23)
include hE hB hM

/-- Representable inputs below the normal range are returned unchanged (same bit pattern): an input whose value is
    `m · 2^(1-B-M)`, in fixed point `m · 2^(d+k)` units of `2^-149`, is on both grids, so neither rounding moves it. -/
theorem quantise_sub_fixes (off n m : ℕ) (hoff : off < 2 ^ (23 - M)) (hsub : expo n ≤ 127 - 2 ^ (E - 1))
    (hrep : fixOf n = m * 2 ^ (127 - 2 ^ (E - 1) + (23 - M))) :
    quantMag E M off n = n := by
  apply fixOf_injective
  rw [(fixOf_quantMag_sub E M n hE hB hM hsub off hoff).2, hrep, Nat.add_comm, pow_add, ← Nat.mul_assoc,
    rneShift_mul, round_core_fixes _ _ _ hoff (Nat.dvd_mul_left _ _)]

end

theorem quantise_sub_fixes_value (E M off n m : ℕ) (hE : 1 ≤ E) (hB : 2 ^ (E - 1) ≤ 127) (hM : M ≤ 23)
    (hoff : off < 2 ^ (23 - M)) (hsub : expo n ≤ 127 - 2 ^ (E - 1))
    (hrep : fixOf n = m * 2 ^ (127 - 2 ^ (E - 1) + (23 - M))) :
    val (quantMag E M off n) = val n := by
  rw [quantise_sub_fixes E M hE hB hM off n m hoff hsub hrep]

-- `hsub` can be met: E4M3 (d = 119), the pattern of 2^-8 (0x3B800000) is below the smallest normal 2^-7
example : expo 0x3B800000 ≤ 127 - 2 ^ (4 - 1) := by decide

end USProofs.C13
