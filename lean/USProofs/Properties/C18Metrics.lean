/-
  C18 — the recorded metrics are the true statistics (`meanAbs_eq`, `absMean_eq`) and mutually consistent for every
  non-empty tensor: `|mean| ≤ mean_abs`, `abs_min ≤ mean_abs ≤ abs_max` (with the model's own definitions of the
  running min / max folds).
-/
import USModel.Track
import USProofs.RealInst
import USProofs.Properties.C18
import Mathlib.Algebra.Order.BigOperators.Group.List

open USModel

namespace USProofs.C18

theorem absS_eq (x : ℝ) : absS x = |x| := by
  unfold absS
  rw [nat_real, Nat.cast_zero]
  split
  · rename_i h; exact (abs_of_neg h).symm
  · rename_i h; exact (abs_of_nonneg (not_lt.mp h)).symm

theorem meanAbs_eq (xs : List ℝ) : (metricsOf xs).meanAbs = (xs.map (|·|)).sum / xs.length := by
  simp only [metricsOf, nat_real, Nat.cast_zero, ← List.sum_eq_foldl, funext absS_eq]

theorem absMean_eq (xs : List ℝ) : (metricsOf xs).absMean = |xs.sum / xs.length| := by
  simp only [metricsOf, nat_real, Nat.cast_zero, ← List.sum_eq_foldl, absS_eq]

theorem abs_mean_le_mean_abs (xs : List ℝ) : (metricsOf xs).absMean ≤ (metricsOf xs).meanAbs := by
  rw [absMean_eq, meanAbs_eq, abs_div, Nat.abs_cast]
  exact div_le_div_of_nonneg_right (List.le_sum_of_subadditive (abs : ℝ → ℝ) abs_zero.le abs_add_le xs)
    (Nat.cast_nonneg _)

theorem mean_abs_bounds (xs : List ℝ) (lo hi : ℝ) (hne : xs ≠ [])
    (h : ∀ x ∈ xs, lo ≤ |x| ∧ |x| ≤ hi) : lo ≤ (metricsOf xs).meanAbs ∧ (metricsOf xs).meanAbs ≤ hi := by
  have hn : (0 : ℝ) < xs.length := Nat.cast_pos.mpr (List.length_pos_iff.mpr hne)
  have h1 := List.card_nsmul_le_sum (xs.map (|·|)) lo (List.forall_mem_map.mpr fun x hx => (h x hx).1)
  have h2 := List.sum_le_card_nsmul (xs.map (|·|)) hi (List.forall_mem_map.mpr fun x hx => (h x hx).2)
  rw [List.length_map, nsmul_eq_mul] at h1 h2
  rw [meanAbs_eq]
  exact ⟨(le_div_iff₀' hn).mpr h1, (div_le_iff₀' hn).mpr h2⟩

theorem numel_eq (xs : List ℝ) : (metricsOf xs).numel = xs.length := rfl

theorem maxS_eq : (maxS : ℝ → ℝ → ℝ) = max := funext₂ fun a b => (max_def_lt a b).symm

theorem minS_eq : (minS : ℝ → ℝ → ℝ) = min := funext₂ fun a b => (min_def_lt b a).symm.trans (min_comm b a)

theorem abs_between (xs : List ℝ) : ∀ x ∈ xs, (metricsOf xs).absMin ≤ |x| ∧ |x| ≤ (metricsOf xs).absMax := by
  intro x hx
  have hmem : absS x ∈ xs.map absS := List.mem_map_of_mem hx
  rw [← absS_eq]
  simp only [metricsOf, maxS_eq, minS_eq]
  -- a running maximum (minimum) from `a` over `l` is `(a :: l).max?` (`min?`) by definition, and that bounds every element
  refine ⟨?_, (List.max?_eq_some_iff.mp List.max?_cons').2 _ (List.mem_cons_of_mem _ hmem)⟩
  cases hl : xs.map absS with
  | nil => rw [hl] at hmem; cases hmem
  | cons a rest => exact (List.min?_eq_some_iff.mp List.min?_cons').2 _ (hl ▸ hmem)

theorem absMin_le_meanAbs_le_absMax (xs : List ℝ) (hne : xs ≠ []) :
    (metricsOf xs).absMin ≤ (metricsOf xs).meanAbs ∧ (metricsOf xs).meanAbs ≤ (metricsOf xs).absMax :=
  mean_abs_bounds xs _ _ hne (abs_between xs)

example : (metricsOf [(-3 : ℝ), 1, 2]).absMax = 3 := by
  simp only [metricsOf, List.map, List.foldl, nat_real, Nat.cast_zero, maxS_eq, absS_eq]
  norm_num

example (f g : DOp ℝ ℝ) (x c : ℝ) :
    (instrumentChain [f, g]).vjp x c = (plainChain [f, g]).vjp x c := (track_transparent [f, g] x c).2

end USProofs.C18
