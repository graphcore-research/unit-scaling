/-
  C12 — width-independent updates: one Adam step moves every output by exactly lr.

  The theorem connects three models: the forward scale of the layer (`linearScales`,
  `conv1dScales`), the tag → learning-rate rule (`lrScaleAdam`) and the first Adam step
  (`adamFirstStep`).  Changing any one of them alone breaks the identity
  `fwdScale · lrScale · fan_in = depthFactor`.
-/
import USModel.ScaledParams
import USProofs.RealInst
import USProofs.Properties.C10
import USProofs.Properties.C05
import Mathlib.Tactic.Ring

open USModel

namespace USProofs.C12

/-- With `eps = 0` the first Adam step is `−lr · sign(g)`. -/
theorem adam_first_step_sign (lr g : ℝ) : adamFirstStep lr 0 g = -(lr * (g / |g|)) := by
  simp only [adamFirstStep, real_model, Real.sqrt_mul_self_eq_abs, add_zero]

/-- A layer computing `out = sf · Σᵢ xᵢ wᵢ` on a ±1 input, whose weight
    gradient is `sw · g · xᵢ` (any `sw > 0`), after one Adam step with learning rate `lr` (eps 0):
    the output moves by `−sf · lr · n · sign(g)`. -/
theorem output_move (n : ℕ) (x : Fin n → ℝ) (hx : ∀ i, x i = 1 ∨ x i = -1) (g : ℝ)
    (sf sw lr : ℝ) (hsw : 0 < sw) :
    sf * ∑ i, x i * adamFirstStep lr 0 (sw * (g * x i)) = -(sf * lr * n) * (g / |g|) := by
  have hterm : ∀ i, x i * adamFirstStep lr 0 (sw * (g * x i)) = -(lr * (g / |g|)) := fun i => by
    rw [adam_first_step_sign, abs_mul, abs_of_pos hsw, mul_div_mul_left _ _ hsw.ne']
    rcases hx i with h | h <;>
      simp only [h, mul_one, one_mul, mul_neg, neg_mul, abs_neg, neg_div, neg_neg]
  rw [Finset.sum_congr rfl fun i _ => hterm i, Finset.sum_const, Finset.card_univ, Fintype.card_fin,
    nsmul_eq_mul]
  ring

/-- `|g/|g|| = 1`: the move has absolute value `sf · lr · n`. -/
theorem abs_sign (g : ℝ) (hg : g ≠ 0) : abs (g / abs g) = 1 := by
  rw [abs_div, abs_abs, div_self (abs_ne_zero.mpr hg)]

/-- forward scale `n ** -0.5`, learning rate `η · D · n ** -0.5`, `n` terms: `sq_inv_sqrt_mul` -/
theorem fwdScale_mul_lr_mul_fanIn {n : ℝ} (hn : 0 < n) (η D : ℝ) :
    (1 / √n) * (η * (D * (1 / √n))) * n = η * D := by
  rw [show (1 / √n) * (η * (D * (1 / √n))) * n = η * D * ((1 / √n) ^ 2 * n) by ring,
    sq_inv_sqrt_mul hn, mul_one]

/-- Linear (constraint `None` or the default `to_output_scale`), weight tagged `weight`. -/
theorem linear_width_free (fo fi numel : ℕ) (hfi : 0 < fi) (c : Option String)
    (hc : c = none ∨ c = some "to_output_scale") (d : Option ℕ) (η : ℝ)
    (s : OpScales ℝ) (hs : linearScales fo fi numel half half half c = .ok s)
    (l : ℝ) (hl : lrScaleAdam (α := ℝ) .weight [fo, fi] d = .ok l) :
    s.fwd * (η * l) * fi = η * C10.depthFactor d := by
  obtain rfl := Except.ok.inj ((C10.lr_adam_weight [fo, fi] fi rfl d).symm.trans hl)
  have hf : s.fwd = 1 / (fi : ℝ) ^ (half : ℝ) := by
    rcases hc with rfl | rfl
    · exact congrArg OpScales.fwd (Except.ok.inj (hs.symm.trans (C05.linear_unconstrained ..)))
    · exact congrArg OpScales.fwd (Except.ok.inj (hs.symm.trans
        (C05.linear_constrained _ (by decide) _ _ _ _ _ _ _ (C05.to_output_scale_spec _ _))))
  rw [hf, half_real, rpow_half]
  exact fwdScale_mul_lr_mul_fanIn (Nat.cast_pos.2 hfi) _ _

/-- LinearReadout (constraint `None`, the default), weight tagged `output`. -/
theorem readout_width_free (fo fi numel : ℕ) (hfi : 0 < fi) (d : Option ℕ) (η : ℝ)
    (s : OpScales ℝ) (hs : linearReadoutScales fo fi numel none = .ok s)
    (l : ℝ) (hl : lrScaleAdam (α := ℝ) .output [fo, fi] d = .ok l) :
    s.fwd * (η * l) * fi = η * C10.depthFactor d := by
  obtain rfl := Except.ok.inj ((C10.lr_adam_other .output (by decide) [fo, fi] d).symm.trans hl)
  obtain rfl := Except.ok.inj (hs.symm.trans (C05.linear_unconstrained ..))
  simp only [real_model, Real.rpow_one]
  rw [mul_right_comm, one_div_mul_cancel (Nat.cast_ne_zero.2 hfi.ne'), one_mul]

/-- Conv1d at a single output position (constraint `None` or default): the dot product has
    `fan_in · kernel` terms and the 3-D weight's optimizer fan-in is the same number. -/
theorem conv1d_width_free (fo fi k seq lead stride pad dil groups : ℕ) (hfi : 0 < fi) (hk : 0 < k)
    (d : Option ℕ) (η : ℝ) (s : OpScales ℝ)
    (hs : conv1dScales fo fi k seq lead stride pad dil groups half half half none = .ok s)
    (l : ℝ) (hl : lrScaleAdam (α := ℝ) .weight [fo, fi, k] d = .ok l) :
    s.fwd * (η * l) * ((fi * k : ℕ) : ℝ) = η * C10.depthFactor d := by
  obtain rfl := Except.ok.inj ((C10.lr_adam_weight [fo, fi, k] (fi * k) rfl d).symm.trans hl)
  obtain rfl := Except.ok.inj (hs.symm.trans (C05.conv1d_unconstrained ..))
  simp only [real_model]
  exact fwdScale_mul_lr_mul_fanIn (Nat.cast_pos.2 (Nat.mul_pos hfi hk)) _ _

/-- C12.  Every output coordinate of a unit-scaled Linear layer moves by exactly
    `η/√depth` (sign `−sign g`) after the first Adam step, for every fan-in and fan-out. -/
theorem adam_step_width_free (fo fi numel : ℕ) (hfi : 0 < fi) (c : Option String)
    (hc : c = none ∨ c = some "to_output_scale") (d : Option ℕ) (η : ℝ)
    (s : OpScales ℝ) (hs : linearScales fo fi numel half half half c = .ok s)
    (l : ℝ) (hl : lrScaleAdam (α := ℝ) .weight [fo, fi] d = .ok l)
    (x : Fin fi → ℝ) (hx : ∀ i, x i = 1 ∨ x i = -1) (g : ℝ) (hg : g ≠ 0) (sw : ℝ) (hsw : 0 < sw) :
    s.fwd * ∑ i, x i * adamFirstStep (η * l) 0 (sw * (g * x i))
      = -(η * C10.depthFactor d) * (g / |g|) := by
  rw [output_move fi x hx g s.fwd sw (η * l) hsw, linear_width_free fo fi numel hfi c hc d η s hs l hl]

example : (∀ i : Fin 3, (![1, -1, 1] : Fin 3 → ℝ) i = 1 ∨ (![1, -1, 1] : Fin 3 → ℝ) i = -1) := by
  intro i; fin_cases i <;> simp

end USProofs.C12
