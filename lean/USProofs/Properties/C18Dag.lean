/-
  C18 — on a DAG of any size, what each tracker logs in the backward pass is the total gradient of
  its node: the table of logged gradients is the unique solution of the adjoint equation
  "gradient of `i` = seed of `i` ⊕ the cotangents every consumer `j` of `i` sends back, computed
  from the gradient of `j`", with the additions made in the order autograd makes them.  No law of
  `+` is used, so the statement covers floating-point tensors bit for bit.
-/
import USModel.Dag

open USModel

namespace USProofs.C18

variable {V : Type}

theorem accAll_apply [Add V] (adj : Nat → Option V) (ins : List Nat) (cs : List V) (i : Nat) :
    accAll adj ins cs i = (dagContribs ins cs i).foldl addOpt (adj i) := by
  induction ins generalizing adj cs with
  | nil => rfl
  | cons j js ih =>
    cases cs with
    | nil => rfl
    | cons c cs =>
      rw [accAll, ih, dagContribs, accAt]
      by_cases h : j = i
      · rw [if_pos h, if_pos h.symm, List.foldl_cons]
      · rw [if_neg h, if_neg (Ne.symm h)]

theorem dagContribs_not_mem (ins : List Nat) (cs : List V) (i : Nat) (h : i ∉ ins) :
    dagContribs ins cs i = [] := by
  induction ins generalizing cs with
  | nil => rfl
  | cons j js ih =>
    cases cs with
    | nil => rfl
    | cons c cs => rw [dagContribs, if_neg (List.ne_of_not_mem_cons h).symm, ih cs (List.not_mem_of_not_mem_cons h)]

/-- graph order as a bounded (for a concrete program: decidable) statement -/
theorem dagWF_iff (P : List (DNode V)) : DagWF P ↔ ∀ m (h : m < P.length), ∀ i ∈ P[m].ins, i < m :=
  ⟨fun h m hm => h m _ (List.getElem?_eq_getElem hm), fun h m n hP => by
    obtain ⟨hm, rfl⟩ := List.getElem?_eq_some_iff.mp hP; exact h m hm⟩

section
variable [Add V] [Inhabited V] (wrapB : V → V) (P : List (DNode V)) (env : List V)

theorem backStep_eq_pullStep (adj : Nat → Option V) (m i : Nat) :
    backStep wrapB P env adj m i = pullStep wrapB P env adj i (adj i) m := by
  unfold backStep pullStep
  cases P[m]? <;> cases adj m
  case some.some => exact accAll_apply ..
  all_goals rfl

theorem pullStep_congr (T U : Nat → Option V) (i j : Nat) (h : T j = U j) (acc : Option V) :
    pullStep wrapB P env T i acc j = pullStep wrapB P env U i acc j := by
  unfold pullStep; rw [h]

theorem pullStep_early (hwf : DagWF P) (T : Nat → Option V) (i j : Nat) (hj : j ≤ i) (acc : Option V) :
    pullStep wrapB P env T i acc j = acc := by
  unfold pullStep
  split
  · next n _ hP _ => rw [dagContribs_not_mem _ _ _ fun h => Nat.not_lt.mpr hj (hwf j n hP i h)]; rfl
  · rfl

/-- the gradient a node holds when it is processed is the gradient it holds at the end -/
theorem dagSweep_stable (hwf : DagWF P) (m : Nat) (adj : Nat → Option V) (j : Nat) (hj : m ≤ j) :
    dagSweep wrapB P env m adj j = adj j := by
  induction m generalizing adj with
  | zero => rfl
  | succ m ih =>
    show dagSweep wrapB P env m (backStep wrapB P env adj m) j = adj j
    rw [ih _ (Nat.le_of_succ_le hj), backStep_eq_pullStep, pullStep_early wrapB P env hwf _ _ _ (Nat.le_of_succ_le hj)]

theorem dagSweep_adjoint (hwf : DagWF P) (m : Nat) (adj : Nat → Option V) (i : Nat) :
    dagSweep wrapB P env m adj i =
      (descList m).foldl (pullStep wrapB P env (dagSweep wrapB P env m adj) i) (adj i) := by
  induction m generalizing adj with
  | zero => rfl
  | succ m ih =>
    rw [dagSweep, ih, descList, List.foldl_cons, backStep_eq_pullStep]
    congr 1
    -- node `m` still holds `adj m` when it is processed, and keeps it to the end
    apply pullStep_congr
    rw [dagSweep_stable wrapB P env hwf m _ m (Nat.le_refl _), backStep_eq_pullStep,
      pullStep_early wrapB P env hwf _ _ _ (Nat.le_refl _)]

theorem lt_of_mem_descList {n j : Nat} (h : j ∈ descList n) : j < n := by
  induction n with
  | zero => cases h
  | succ n ih =>
    rcases List.mem_cons.mp h with rfl | h
    · exact Nat.lt_succ_self _
    · exact Nat.lt_succ_of_lt (ih h)

theorem foldl_pullStep_congr (hwf : DagWF P) (T U : Nat → Option V) (i : Nat) (js : List Nat)
    (h : ∀ j ∈ js, i < j → T j = U j) (acc : Option V) :
    js.foldl (pullStep wrapB P env T i) acc = js.foldl (pullStep wrapB P env U i) acc := by
  refine List.foldl_rel (r := Eq) rfl fun j hj acc _ e => e ▸ ?_
  by_cases hji : j ≤ i
  · rw [pullStep_early wrapB P env hwf T i j hji, pullStep_early wrapB P env hwf U i j hji]
  · exact pullStep_congr wrapB P env T U i j (h j hj (Nat.lt_of_not_le hji)) acc

def SolvesAdjoint (n : Nat) (seed T : Nat → Option V) : Prop :=
  ∀ i, T i = (descList n).foldl (pullStep wrapB P env T i) (seed i)

/-- What the trackers log solves the adjoint equation: for every node `i`, the logged gradient is the seed of `i` plus,
    for every later node `j` (last first) and every argument position of `j` that reads `i`, the cotangent `vjp_j`
    produces from the gradient logged at `j`. -/
theorem logged_solves_adjoint (hwf : DagWF P) (seed : Nat → Option V) :
    SolvesAdjoint wrapB P env P.length seed (dagSweep wrapB P env P.length seed) :=
  fun i => dagSweep_adjoint wrapB P env hwf P.length seed i

theorem adjoint_unique (hwf : DagWF P) (n : Nat) (seed T U : Nat → Option V)
    (hT : SolvesAdjoint wrapB P env n seed T) (hU : SolvesAdjoint wrapB P env n seed U) :
    ∀ i, T i = U i := by
  -- downward induction on `i`: the equation at `i` reads the tables at `i < j < n` only
  intro i
  rw [hT i, hU i]
  exact foldl_pullStep_congr wrapB P env hwf T U i _ (fun j hj hij => adjoint_unique hwf n seed T U hT hU j) _
termination_by i => n - i
decreasing_by exact Nat.sub_lt_sub_left (Nat.lt_trans hij (lt_of_mem_descList hj)) hij

/-- the tracker's wrappers are identities: the instrumented forward pass and reverse sweep are the plain ones (values
    and every gradient buffer, at every node) -/
theorem dag_transparent (wrap wrapB' : V → V) (hw : ∀ x, wrap x = x) (hb : ∀ g, wrapB' g = g)
    (seed : Nat → Option V) :
    dagFwd wrap P [] = dagFwd id P [] ∧
    dagSweep wrapB' P env P.length seed = dagSweep id P env P.length seed := by
  have e1 : wrap = id := funext hw
  have e2 : wrapB' = id := funext hb
  subst e1; subst e2; exact ⟨rfl, rfl⟩

end

/-- a worked fan-out: `x` (node 0) is read twice by node 1 (`x*x`) and once by node 2 (`x*x + x`); with seed 1 at
    node 2 the tracker of `x` logs `2x + 1` -/
example :
    dagLog [DSpec.toNode (.input [3, -2]), DSpec.toNode (.mul 0 0), DSpec.toNode (.lin [1, 0] [1, 1])]
      (fun k => if k = 2 then some [1, 1] else none)
    = [([3, -2], some [7, -3]), ([9, 4], some [1, 1]), ([12, 2], some [1, 1])] := by decide +kernel

example : DagWF [DSpec.toNode (.input [3, -2]), DSpec.toNode (.mul 0 0), DSpec.toNode (.lin [1, 0] [1, 1])] :=
  (dagWF_iff _).mpr (by decide +kernel)

end USProofs.C18
