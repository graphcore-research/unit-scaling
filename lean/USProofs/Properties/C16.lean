/-
  C16 — `unit_scale()` equals the hand conversion prescribed by the User Guide.
  Model: `USModel/UnitScale.lean` (the backend pass by pass).  The theorems below pin the
  decision logic of each pass; that the composed passes equal the real backend on graphs is
  checked exactly by the correspondence, and that the result computes the same function as the
  User-Guide recipe by the Dynamo-path oracle (no theorem states equality with the recipe: DESIGN.md §10.2).
-/
import USModel.UnitScale

open USModel

namespace USProofs.C16

def newTarget (user : List (String × String)) (n : GNode) : String :=
  if n.op = "call_function" then ((user.lookup n.target).or (torchMap.lookup n.target)).getD n.target else n.target

/-- pass 1, the replacement sweep, replaces targets and nothing else -/
theorem sweep_eq (user : List (String × String)) (g : IGraph) :
    sweep user g = g.map fun x => { x with n := { x.n with target := newTarget user x.n } } := by
  refine List.map_congr_left fun x _ => ?_
  unfold newTarget
  by_cases hop : x.n.op = "call_function"
  · rw [if_pos hop, if_pos (by simpa using hop)]
    cases user.lookup x.n.target <;> cases torchMap.lookup x.n.target <;> rfl
  · rw [if_neg hop, if_neg (by simpa using hop)]

theorem sweep_length (user : List (String × String)) (g : IGraph) : (sweep user g).length = g.length := by
  rw [sweep_eq, List.length_map]

theorem sweep_keeps (user : List (String × String)) (g : IGraph) (i : Nat) (x : INode) (h : g[i]? = some x) :
    ∃ y, (sweep user g)[i]? = some y ∧ y.id = x.id ∧ y.n.args = x.n.args ∧ y.n.kwargs = x.n.kwargs ∧ y.n.op = x.n.op := by
  rw [sweep_eq, List.getElem?_map, h]
  exact ⟨_, rfl, rfl, rfl, rfl, rfl⟩

/-- user-supplied replacements take precedence over the built-in ones -/
theorem user_precedence (user : List (String × String)) (x : INode) (t : String)
    (hop : x.n.op = "call_function") (hu : user.lookup x.n.target = some t) :
    (sweep user [x]) = [{ x with n := { x.n with target := t } }] := by
  simp [sweep_eq, newTarget, hop, hu]

/-- every call of a function with a unit-scaled counterpart is replaced by it, same arguments -/
theorem builtin_replaced (user : List (String × String)) (x : INode) (t : String)
    (hop : x.n.op = "call_function") (hu : user.lookup x.n.target = none)
    (ht : torchMap.lookup x.n.target = some t) :
    (sweep user [x]) = [{ x with n := { x.n with target := t } }] := by
  simp [sweep_eq, newTarget, hop, hu, ht]

/-- all other operations are untouched by the sweep -/
theorem other_untouched (user : List (String × String)) (x : INode)
    (h : x.n.op ≠ "call_function" ∨ (user.lookup x.n.target = none ∧ torchMap.lookup x.n.target = none)) :
    sweep user [x] = [x] := by
  rcases h with h | ⟨h1, h2⟩
  · simp [sweep_eq, newTarget, h]
  · simp [sweep_eq, newTarget, h1, h2]

/-- an addition of two nodes: a residual connection with the operand that is computed from the other one as the
    branch (the right one if both are), a plain add if neither is -/
theorem classifyAdd_refs (g : IGraph) (deps : List (Nat × List Nat)) (x : INode) (l r : Nat) (hadd : isAdd x.n = true)
    (hargs : x.n.args = [.ref l, .ref r]) :
    classifyAdd g deps x =
      if l ∈ (deps.lookup r).getD [] then some (.residual 1 (isSelfAttention g l r))
      else if r ∈ (deps.lookup l).getD [] then some (.residual 0 (isSelfAttention g r l))
      else some .plain := by
  unfold classifyAdd
  rw [if_pos hadd, hargs]
  by_cases h1 : l ∈ (deps.lookup r).getD []
  · simp [h1]
  · by_cases h2 : r ∈ (deps.lookup l).getD []
    · simp [h1, h2]
    · simp [h1, h2]

/-- an addition is rewritten as a residual connection iff one operand is computed from the other (is among the
    other's transitive inputs), however that operand was produced -/
theorem residual_detect (g : IGraph) (x : INode) (l r : Nat) (hadd : isAdd x.n = true)
    (hargs : x.n.args = [.ref l, .ref r]) :
    (∃ idx sa, classifyAdd g (allDeps g) x = some (.residual idx sa)) ↔
      (((allDeps g).lookup r).getD []).contains l = true ∨ (((allDeps g).lookup l).getD []).contains r = true := by
  rw [classifyAdd_refs g _ x l r hadd hargs]
  simp only [List.contains_iff_mem]
  by_cases h1 : l ∈ ((allDeps g).lookup r).getD []
  · simp [h1]
  · by_cases h2 : r ∈ ((allDeps g).lookup l).getD []
    · simp [h1, h2]
    · simp [h1, h2]

/-- every other addition (incl. tensor + scalar) is a plain add -/
theorem other_adds_plain (g : IGraph) (deps : List (Nat × List Nat)) (x : INode) (hadd : isAdd x.n = true)
    (hargs : ∀ l r, x.n.args ≠ [.ref l, .ref r]) : classifyAdd g deps x = some .plain := by
  unfold classifyAdd
  rw [if_pos hadd]
  split
  · rename_i l r h; exact absurd h (hargs l r)
  · rfl

theorem non_add_unclassified (g : IGraph) (deps : List (Nat × List Nat)) (x : INode) (h : isAdd x.n = false) :
    classifyAdd g deps x = none := by
  simp [classifyAdd, h]

theorem eraseKw_key {kw : List (String × Arg)} {k : String} : ∀ x ∈ eraseKw kw k, ¬ (x.1 == k) = true :=
  fun x hx => by simpa [bne_iff_ne] using (List.mem_filter.mp hx).2

/-- `dict(node.kwargs, constraint=None)`: afterwards the key is bound, to that value -/
theorem setKw_lookup (kw : List (String × Arg)) (k : String) (v : Arg) :
    lookupKw (setKw kw k v) k = some v := by
  simp [setKw, lookupKw, List.find?_append, List.find?_eq_none.mpr eraseKw_key]

/-- …and bound exactly once: the rewritten call never passes `constraint` twice (defect F-C16a) -/
theorem setKw_count (kw : List (String × Arg)) (k : String) (v : Arg) :
    ((setKw kw k v).filter (·.1 == k)).length = 1 := by
  simp [setKw, List.filter_append, List.filter_eq_nil_iff.mpr eraseKw_key]

/-- the classification carries the self-attention flag of the branch, which selects tau -/
theorem residual_flag (g : IGraph) (x : INode) (l r : Nat) (hadd : isAdd x.n = true)
    (hargs : x.n.args = [.ref l, .ref r]) (hl : (((allDeps g).lookup r).getD []).contains l = true) :
    classifyAdd g (allDeps g) x = some (.residual 1 (isSelfAttention g l r)) := by
  rw [classifyAdd_refs g _ x l r hadd hargs, if_pos (List.contains_iff_mem.mp hl)]

-- the documented example `x + f(x)`
def demo : Graph :=
  [{ op := "placeholder", target := "x", args := [], kwargs := [] },
   { op := "call_function", target := "F.linear", args := [.ref 0, .lit "w"], kwargs := [] },
   { op := "call_function", target := "F.softmax", args := [.ref 1], kwargs := [("dim", .lit "-1")] },
   { op := "call_function", target := "op.add", args := [.ref 0, .ref 2], kwargs := [] },
   { op := "call_function", target := "F.gelu", args := [.ref 3], kwargs := [] },
   { op := "output", target := "output", args := [.ref 4], kwargs := [] }]

/-- the backend turns it into split / U.linear / U.softmax / residual_add(tau = 0.01) / unconstrained gelu -/
theorem demo_backend : unitScaleBackend [] [] demo =
    [{ op := "placeholder", target := "x", args := [], kwargs := [] },
     { op := "call_function", target := "U.residual_split", args := [.ref 0, .lit "0.01"], kwargs := [] },
     { op := "call_function", target := "op.getitem", args := [.ref 1, .lit "1"], kwargs := [] },
     { op := "call_function", target := "op.getitem", args := [.ref 1, .lit "0"], kwargs := [] },
     { op := "call_function", target := "U.linear", args := [.ref 3, .lit "w"], kwargs := [] },
     { op := "call_function", target := "U.softmax", args := [.ref 4], kwargs := [("dim", .lit "-1")] },
     { op := "call_function", target := "U.residual_add", args := [.ref 5, .ref 2, .lit "0.01"], kwargs := [] },
     { op := "call_function", target := "U.gelu", args := [.ref 6], kwargs := [("constraint", .lit "None")] },
     { op := "output", target := "output", args := [.ref 7], kwargs := [] }] := by
  rfl

example : (unitScaleBackend [] [] demo).map (·.target) =
    ["x", "U.residual_split", "op.getitem", "op.getitem", "U.linear", "U.softmax", "U.residual_add", "U.gelu", "output"] := by
  rw [demo_backend]
  rfl
example : ((unitScaleBackend [] [] demo)[6]?).map (fun n => Arg.showList n.args) = some "%5, %2, 0.01" := by
  rw [demo_backend]
  decide +kernel
example : ((unitScaleBackend [] [] demo)[7]?).map (fun n => n.kwargs.map fun p => (p.1, p.2.show))
    = some [("constraint", "None")] := by
  rw [demo_backend]
  rfl
example : ((unitScaleBackend [] [] demo)[4]?).map (fun n => n.kwargs.length) = some 0 := by
  rw [demo_backend]
  rfl

end USProofs.C16
