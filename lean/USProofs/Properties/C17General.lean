/-
  C17 — the nesting rules for chains of any length and composition (the finite family of the property is a special
  case): every applied transform's backend is present exactly once (the final list is a permutation of what was
  applied), the backends other than unit scaling keep the order in which they were applied, and whenever both a
  unit-scaling and a quantisation backend are present the last unit-scaling backend comes before the last
  quantisation backend.

  Everything rests on two case distinctions, each made once: `lastIdx_cases` (a list either has no match or splits at
  its last match; `lastIdx_append_cons` is the converse) and `step_cases` (a transform appends its backend, except that
  `unit_scale` puts it right before the last quantisation backend).  `IsLast` / `NoneSat` specify `lastIdx` by
  positions (`lastIdx_spec`, `lastIdx_eq_some_iff`); the chain proofs do not use them.
-/
import USModel.Backends
import Mathlib.Data.List.Induction

open USModel

namespace USProofs.C17

def kindOf : Transform → BKind
  | .unitScale => .unit | .simulate => .quant | .trackScales => .track | .compile => .compile

theorem lastIdx_snoc (p : BKind → Bool) (l : List BKind) (x : BKind) :
    lastIdx p (l ++ [x]) = if p x then some l.length else lastIdx p l := by
  unfold lastIdx
  rw [List.zipIdx_append, List.filter_append]
  by_cases h : p x <;> simp [h, List.zipIdx_cons]

theorem lastIdx_cases (p : BKind → Bool) (l : List BKind) :
    (lastIdx p l = none ∧ ∀ y ∈ l, p y = false) ∨
    ∃ a x b, l = a ++ x :: b ∧ lastIdx p l = some a.length ∧ p x = true ∧ ∀ y ∈ b, p y = false := by
  induction l using List.reverseRecOn with
  | nil => exact .inl ⟨rfl, List.forall_mem_nil _⟩
  | append_singleton l z ih =>
    rw [lastIdx_snoc]
    cases hz : p z with
    | true => exact .inr ⟨l, z, [], rfl, rfl, hz, List.forall_mem_nil _⟩
    | false =>
      have hz' : ∀ y ∈ [z], p y = false := List.forall_mem_singleton.mpr hz
      rcases ih with ⟨h, hl⟩ | ⟨a, x, b, rfl, h, hx, hb⟩
      · exact .inl ⟨h, List.forall_mem_append.mpr ⟨hl, hz'⟩⟩
      · exact .inr ⟨a, x, b ++ [z], List.append_assoc .., h, hx, List.forall_mem_append.mpr ⟨hb, hz'⟩⟩

/-- the converse of the second case of `lastIdx_cases` -/
theorem lastIdx_append_cons {p : BKind → Bool} (a : List BKind) {x : BKind} {b : List BKind} (hx : p x = true)
    (hb : ∀ y ∈ b, p y = false) : lastIdx p (a ++ x :: b) = some a.length := by
  induction b using List.reverseRecOn with
  | nil => rw [lastIdx_snoc, if_pos hx]
  | append_singleton b z ih =>
    rw [← List.cons_append, ← List.append_assoc, lastIdx_snoc, if_neg (Bool.eq_false_iff.mp (hb z (by simp))),
      ih fun y hy => hb y (List.mem_append_left _ hy)]

theorem lt_length_of_lastIdx {p : BKind → Bool} {l : List BKind} {i : Nat} (h : lastIdx p l = some i) : i < l.length := by
  rcases lastIdx_cases p l with ⟨hn, _⟩ | ⟨a, x, b, rfl, hs, _⟩
  · cases hn.symm.trans h
  · cases hs.symm.trans h
    exact List.length_append ▸ Nat.lt_add_of_pos_right (Nat.succ_pos _)

def IsLast (p : BKind → Bool) (l : List BKind) (i : Nat) : Prop :=
  (∃ x, l[i]? = some x ∧ p x = true) ∧ ∀ (j : Nat) (x : BKind), i < j → l[j]? = some x → p x = false

def NoneSat (p : BKind → Bool) (l : List BKind) : Prop := ∀ (j : Nat) (x : BKind), l[j]? = some x → p x = false

theorem isLast_split {p : BKind → Bool} (a : List BKind) {x : BKind} {b : List BKind} (hx : p x = true)
    (hb : ∀ y ∈ b, p y = false) : IsLast p (a ++ x :: b) a.length := by
  refine ⟨⟨x, ?_, hx⟩, fun j y hj hy => hb y ?_⟩
  · rw [List.getElem?_append_right (Nat.le_refl _), Nat.sub_self]; rfl
  · obtain ⟨k, rfl⟩ := Nat.exists_eq_add_of_lt hj
    rw [Nat.add_assoc, List.getElem?_append_right (Nat.le_add_right ..), Nat.add_sub_cancel_left,
      List.getElem?_cons_succ] at hy
    exact List.mem_of_getElem? hy

theorem lastIdx_spec (p : BKind → Bool) (l : List BKind) :
    match lastIdx p l with
    | some i => IsLast p l i
    | none => NoneSat p l := by
  rcases lastIdx_cases p l with ⟨h, hl⟩ | ⟨a, x, b, rfl, h, hx, hb⟩ <;> rw [h]
  · exact fun j y hy => hl y (List.mem_of_getElem? hy)
  · exact isLast_split a hx hb

theorem isLast_unique {p : BKind → Bool} {l : List BKind} {i i' : Nat} (h : IsLast p l i) (h' : IsLast p l i') : i = i' := by
  obtain ⟨⟨x, hx, hpx⟩, hl⟩ := h
  obtain ⟨⟨x', hx', hpx'⟩, hl'⟩ := h'
  rcases Nat.lt_trichotomy i i' with hlt | heq | hgt
  · have := hl i' x' hlt hx'; rw [hpx'] at this; cases this
  · exact heq
  · have := hl' i x hgt hx; rw [hpx] at this; cases this

theorem isLast_not_noneSat {p : BKind → Bool} {l : List BKind} {i : Nat} (h : IsLast p l i) : ¬ NoneSat p l :=
  fun hn => have ⟨x, hx, hpx⟩ := h.1; Bool.false_ne_true ((hn i x hx).symm.trans hpx)

/-- the two outcomes of `lastIdx_spec` exclude each other and `IsLast` fixes the index, so they determine the result -/
theorem lastIdx_eq_some_iff (p : BKind → Bool) (l : List BKind) (i : Nat) : lastIdx p l = some i ↔ IsLast p l i := by
  have hs := lastIdx_spec p l
  split at hs
  · next i' hi => rw [hi]; exact ⟨fun e => Option.some.inj e ▸ hs, fun h => congrArg some (isLast_unique hs h)⟩
  · next hn => rw [hn]; exact iff_of_false nofun fun h => isLast_not_noneSat h hs

theorem lastIdx_eq_none_iff (p : BKind → Bool) (l : List BKind) : lastIdx p l = none ↔ NoneSat p l := by
  have hs := lastIdx_spec p l
  split at hs
  · next i hi => rw [hi]; exact iff_of_false nofun (isLast_not_noneSat hs)
  · next hn => rw [hn]; exact iff_of_true rfl hs

theorem insertIdx_append_length (a b : List BKind) (x : BKind) : (a ++ b).insertIdx a.length x = a ++ x :: b :=
  -- `l.insertIdx i x` unfolds to `l.modifyTailIdx i (x :: ·)`; `a.length + 0` and `b.modifyTailIdx 0 _` reduce
  List.modifyTailIdx_add (x :: ·) 0 a b

theorem unitScale_backends (s : MState) :
    (unitScale s).backends =
      match lastIdx (· == .quant) s.backends with
      | some q => s.backends.insertIdx q .unit
      | none => s.backends ++ [.unit] := by
  show orderBackends (s.backends ++ [BKind.unit]) = _
  unfold orderBackends
  rw [lastIdx_snoc, lastIdx_snoc, if_pos (by decide), if_neg (by decide)]
  cases h : lastIdx (· == .quant) s.backends with
  | none => rfl
  | some q =>
    show (if s.backends.length > q then _ else _) = s.backends.insertIdx q BKind.unit
    rw [if_pos (lt_length_of_lastIdx h), List.eraseIdx_append_of_length_le (Nat.le_refl _), Nat.sub_self]
    exact congrArg (List.insertIdx · q BKind.unit) (List.append_nil s.backends)

def UnitBeforeQuant (l : List BKind) : Prop :=
  ∀ u q, lastIdx (· == .unit) l = some u → lastIdx (· == .quant) l = some q → u < q

theorem step_cases (s : MState) (x : Transform) :
    ((applyT s x).backends = s.backends ++ [kindOf x] ∧
      (kindOf x = .unit → lastIdx (· == .quant) s.backends = none)) ∨
    (x = .unitScale ∧ ∃ a b, s.backends = a ++ .quant :: b ∧ (∀ y ∈ b, (y == BKind.quant) = false) ∧
      (applyT s x).backends = a ++ .unit :: .quant :: b) := by
  cases x
  case unitScale =>
    show ((unitScale s).backends = _ ∧ _) ∨ (_ ∧ ∃ a b, _ ∧ _ ∧ (unitScale s).backends = _)
    rw [unitScale_backends]
    rcases lastIdx_cases (· == .quant) s.backends with ⟨h, _⟩ | ⟨a, x, b, hs, h, hx, hb⟩ <;> rw [h]
    · exact .inl ⟨rfl, fun _ => rfl⟩
    · obtain rfl : x = .quant := eq_of_beq hx
      exact .inr ⟨rfl, a, b, hs, hb, by rw [hs]; exact insertIdx_append_length ..⟩
  all_goals exact .inl ⟨rfl, nofun⟩

theorem step_perm (s : MState) (x : Transform) : (applyT s x).backends.Perm (kindOf x :: s.backends) := by
  rcases step_cases s x with ⟨h, _⟩ | ⟨rfl, a, b, hs, _, h⟩ <;> rw [h]
  · exact List.perm_append_singleton ..
  · rw [hs]; exact List.perm_middle

/-- every backend exactly once: the final list is a permutation of the backends of the applied transforms. -/
theorem chain_perm (s : MState) (c : List Transform) :
    (c.foldl applyT s).backends.Perm ((c.map kindOf).reverse ++ s.backends) := by
  -- the right side is the fold that puts every backend in front; the two folds stay permutations of each other
  rw [← List.foldl_flip_cons_eq_append]
  exact List.foldl_rel (r := fun t l => t.backends.Perm l) (.refl _) fun x _ t _ h => (step_perm t x).trans (h.cons _)

theorem step_others (s : MState) (x : Transform) :
    (applyT s x).backends.filter (· != .unit) = s.backends.filter (· != .unit) ++ [kindOf x].filter (· != .unit) := by
  rcases step_cases s x with ⟨h, _⟩ | ⟨rfl, a, b, hs, _, h⟩ <;> rw [h]
  · exact List.filter_append ..
  · rw [hs, List.filter_append, List.filter_append, List.filter_cons_of_neg (by decide)]
    exact (List.append_nil _).symm

theorem chain_others (s : MState) (c : List Transform) :
    (c.foldl applyT s).backends.filter (· != .unit) =
      s.backends.filter (· != .unit) ++ (c.map kindOf).filter (· != .unit) := by
  induction c generalizing s with
  | nil => simp
  | cons x c ih =>
    simp only [List.foldl_cons, List.map_cons]
    rw [ih (applyT s x), step_others, List.append_assoc, ← List.filter_append]
    rfl

theorem ubq_append (l : List BKind) (k : BKind) (hk : k = .unit → lastIdx (· == .quant) l = none)
    (h : UnitBeforeQuant l) : UnitBeforeQuant (l ++ [k]) := by
  intro u q hu hq
  rw [lastIdx_snoc] at hu hq
  cases k
  case unit => rw [if_neg (by decide), hk rfl] at hq; cases hq
  case quant => rw [if_neg (by decide)] at hu; cases hq; exact lt_length_of_lastIdx hu
  all_goals exact h u q hu hq

theorem no_unit_after_quant {a b : List BKind} (h : UnitBeforeQuant (a ++ .quant :: b))
    (hb : ∀ y ∈ b, (y == BKind.quant) = false) : ∀ y ∈ b, (y == BKind.unit) = false := by
  rcases lastIdx_cases (· == .unit) b with ⟨_, hb'⟩ | ⟨b₁, z, b₂, rfl, _, hz, hb₂⟩
  · exact hb'
  · -- a unit backend in `b` would be the last one, after the last quantisation backend
    have hu := lastIdx_append_cons (p := (· == .unit)) (a ++ .quant :: b₁) hz hb₂
    rw [List.append_assoc, List.cons_append] at hu
    exact absurd (h _ _ hu (lastIdx_append_cons a rfl hb)) (by simp)

theorem ubq_step (s : MState) (x : Transform) (h : UnitBeforeQuant s.backends) : UnitBeforeQuant (applyT s x).backends := by
  rcases step_cases s x with ⟨e, hx⟩ | ⟨rfl, a, b, hs, hb, e⟩ <;> rw [e]
  · exact ubq_append _ _ hx h
  · -- the new unit-scaling backend is the last one, and sits right before the last quantisation backend
    intro u q hu hq
    rw [lastIdx_append_cons a rfl (List.forall_mem_cons.mpr ⟨rfl, no_unit_after_quant (hs ▸ h) hb⟩)] at hu
    rw [List.append_cons, lastIdx_append_cons _ rfl hb] at hq
    cases hu; cases hq; simp

theorem ubq_unitScale (s : MState) (h : UnitBeforeQuant s.backends) : UnitBeforeQuant (unitScale s).backends :=
  ubq_step s .unitScale h

theorem chain_unit_before_quant (s : MState) (c : List Transform) (h : UnitBeforeQuant s.backends) :
    UnitBeforeQuant (c.foldl applyT s).backends :=
  List.foldlRecOn c applyT h fun t ht x _ => ubq_step t x ht

/-- every chain of the property's family is accepted by the real code -/
theorem family_accepted : ∀ c ∈ family, chainAccepted MState.fresh c = true := by decide +kernel

/-- All chains the real code accepts (any length, any repetition).  `_hacc` is the exact guard: a `unit_scale` after
    `track_scales` / `compile` raises `AttributeError` in `_order_backends`, which the correspondence check observes as
    the error branch. -/
theorem chain_spec (c : List Transform) (_hacc : chainAccepted MState.fresh c = true) :
    ((c.foldl applyT MState.fresh).backends.Perm (c.map kindOf)) ∧
    ((c.foldl applyT MState.fresh).backends.filter (· != .unit) = (c.map kindOf).filter (· != .unit)) ∧
    UnitBeforeQuant (c.foldl applyT MState.fresh).backends :=
  ⟨((chain_perm .fresh c).trans (List.append_nil _ ▸ List.reverse_perm _)), chain_others .fresh c,
    chain_unit_before_quant _ c nofun⟩  -- `nofun`: the fresh state has no backend, so `lastIdx _ [] = some u` is impossible

example : chainAccepted MState.fresh [.simulate, .simulate, .unitScale, .trackScales] = true := by decide +kernel
example : chainAccepted MState.fresh [.trackScales, .unitScale] = false := by decide +kernel

/-- a chain outside the finite family: two simulations, a unit scaling, then tracking -/
example : (([.simulate, .simulate, .unitScale, .trackScales] : List Transform).foldl applyT MState.fresh).backends
    = [.quant, .unit, .quant, .track] := by decide +kernel

end USProofs.C17
