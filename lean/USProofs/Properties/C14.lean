/-
  C14 — stochastic rounding picks a neighbour with exactly proportional probability.

  Same integer core as C13 with `offset = r·2^s + ⌊2^s/2⌋`, `s = 23 − M − srbits` the discarded bits left unused, `r` the
  random draw (one per element).  Probabilities are counted: `sr_count` gives the exact number of draws `r < 2^(k−s)`
  (`= 2^srbits`) that round a pattern up.
-/
import USProofs.Properties.C13

open USModel USModel.F32

namespace USProofs.C14

open USProofs.C13

/-- the model's `1 << (s-1) if s > 0 else 0` is `2^s / 2` -/
theorem bias_eq (s : ℕ) : (if s > 0 then 2 ^ (s - 1) else 0) = 2 ^ s / 2 := by
  cases s with
  | zero => rfl
  | succ s => rw [if_pos s.succ_pos, Nat.add_sub_cancel, pow_succ, Nat.mul_div_cancel _ Nat.two_pos]

theorem sr_off_lt {k s r : ℕ} (hs : s ≤ k) (hr : r < 2 ^ (k - s)) : r * 2 ^ s + 2 ^ s / 2 < 2 ^ k :=
  calc r * 2 ^ s + 2 ^ s / 2 < (r + 1) * 2 ^ s := by
        rw [Nat.succ_mul]; exact Nat.add_lt_add_left (Nat.div_lt_self (Nat.two_pow_pos s) Nat.one_lt_two) _
    _ ≤ 2 ^ (k - s) * 2 ^ s := Nat.mul_le_mul_right _ hr
    _ = 2 ^ k := Nat.pow_sub_mul_pow 2 hs

theorem offSR_eq (M srbits r : ℕ) :
    offSR M srbits r = r * 2 ^ (23 - M - srbits) + (if 23 - M - srbits > 0 then 2 ^ (23 - M - srbits - 1) else 0) := rfl

theorem offSR_lt (M srbits r : ℕ) (hb : srbits ≤ 23 - M) (hr : r < 2 ^ srbits) :
    offSR M srbits r < 2 ^ (23 - M) := by
  rw [offSR_eq, bias_eq]
  exact sr_off_lt (Nat.sub_le _ _) (by rwa [Nat.sub_sub_self hb])

/-- Stochastic rounding always returns one of the two enclosing multiples (neighbours). -/
theorem sr_neighbour (M srbits r q : ℕ) (hb : srbits ≤ 23 - M) (hr : r < 2 ^ srbits) :
    roundCore (23 - M) (offSR M srbits r) q = (q / 2 ^ (23 - M)) * 2 ^ (23 - M) ∨
    roundCore (23 - M) (offSR M srbits r) q = (q / 2 ^ (23 - M) + 1) * 2 ^ (23 - M) :=
  round_core_neighbour _ _ _ (offSR_lt M srbits r hb hr)

theorem sr_fixes_representable (M srbits r q : ℕ) (hb : srbits ≤ 23 - M) (hr : r < 2 ^ srbits)
    (hq : 2 ^ (23 - M) ∣ q) : roundCore (23 - M) (offSR M srbits r) q = q :=
  round_core_fixes _ _ _ (offSR_lt M srbits r hb hr) hq

theorem rounds_up_iff (k off q : ℕ) (hoff : off < 2 ^ k) :
    roundCore k off q ≠ roundCore k 0 q ↔ 2 ^ k ≤ q % 2 ^ k + off := by
  rw [roundCore_eq k off q hoff, roundCore_zero]
  split_ifs with h
  · exact iff_of_false (fun h' => h' rfl) (Nat.not_le.mpr h)
  · exact iff_of_true (Nat.ne_of_gt (Nat.mul_lt_mul_of_pos_right (Nat.lt_succ_self _) (Nat.two_pow_pos k)))
      (Nat.le_of_not_lt h)

theorem roundsUpCore_iff {k s r : ℕ} (q : ℕ) (hs : s ≤ k) (hr : r < 2 ^ (k - s)) :
    roundsUpCore k s r q = true ↔ 2 ^ k ≤ q % 2 ^ k + (r * 2 ^ s + 2 ^ s / 2) := by
  rw [roundsUpCore, bias_eq, bne_iff_ne, rounds_up_iff k _ q (sr_off_lt hs hr)]

theorem count_range_ge (n m : ℕ) : (List.range n).countP (fun r => decide (m ≤ r)) = n - m := by
  induction n with
  | zero => rw [Nat.zero_sub]; rfl
  | succ n ih =>
    rw [List.range_succ, List.countP_append, ih, List.countP_singleton]
    by_cases h : m ≤ n
    · rw [if_pos (decide_eq_true h), Nat.succ_sub h]
    · rw [if_neg (by rwa [decide_eq_true_eq]), Nat.sub_eq_zero_of_le (Nat.le_of_not_le h),
        Nat.sub_eq_zero_of_le (Nat.lt_of_not_le h)]

/-- Of the `2^(k−s)` equally likely draws, exactly `⌊(rem + ⌊2^s/2⌋) / 2^s⌋` round `q` up, where `rem = q mod 2^k` are the
    discarded bits. -/
theorem sr_count (k s q : ℕ) (hs : s ≤ k) :
    countUpCore k s q = (q % 2 ^ k + 2 ^ s / 2) / 2 ^ s := by
  have hS := Nat.two_pow_pos s
  have hPk : 2 ^ (k - s) * 2 ^ s = 2 ^ k := Nat.pow_sub_mul_pow 2 hs
  -- the draws that round up are the top `(rem + 2^s/2) / 2^s` ones: both sides say `2^k ≤ rem + 2^s/2 + r·2^s`
  have hcrit : ∀ r ∈ List.range (2 ^ (k - s)), (roundsUpCore k s r q = true ↔
      decide (2 ^ (k - s) - (q % 2 ^ k + 2 ^ s / 2) / 2 ^ s ≤ r) = true) := by
    intro r hr
    rw [roundsUpCore_iff q hs (List.mem_range.mp hr), decide_eq_true_eq, Nat.sub_le_iff_le_add, Nat.add_comm r,
      ← Nat.add_mul_div_right _ _ hS, Nat.le_div_iff_mul_le hS, hPk, Nat.add_comm (r * 2 ^ s), Nat.add_assoc]
  rw [countUpCore, List.countP_congr hcrit, count_range_ge, Nat.sub_sub_self]
  -- … and there are at most `2^(k-s)` of them
  rw [← Nat.lt_succ_iff, Nat.div_lt_iff_lt_mul hS, Nat.succ_mul, hPk]
  exact Nat.add_lt_add (Nat.mod_lt _ (Nat.two_pow_pos k)) (Nat.div_lt_self hS Nat.one_lt_two)

/-- All discarded bits used (`s = 0`): the probability is exactly the fractional position, since inside a binade the
    bit pattern is linear in the value. -/
theorem sr_prob_exact (k q : ℕ) : countUpCore k 0 q = q % 2 ^ k := by
  rw [sr_count k 0 q (Nat.zero_le _), pow_zero, Nat.div_one, Nat.div_eq_of_lt Nat.one_lt_two, Nat.add_zero]

/-- Fewer random bits: the counted probability `count / 2^(k−s)` differs from the fractional position `rem / 2^k` by at
    most half a unit of `2^-(k−s)`. -/
theorem sr_prob_half_ulp (k s q : ℕ) (hs : s ≤ k) :
    countUpCore k s q * 2 ^ s ≤ q % 2 ^ k + 2 ^ s / 2 ∧
    q % 2 ^ k + 2 ^ s / 2 < (countUpCore k s q + 1) * 2 ^ s := by
  rw [sr_count k s q hs]
  exact ⟨Nat.div_mul_le_self _ _, (Nat.div_lt_iff_lt_mul (Nat.two_pow_pos s)).mp (Nat.lt_succ_self _)⟩

example : countUpCore 3 1 13 = 3 := by decide   -- rem = 5 of 8, two random bits: (5+1)/2 = 3 of 4 draws
example : countUpCore 3 0 13 = 5 := by decide   -- all bits: exactly 5 of 8 draws

end USProofs.C14
