/-
  C09 — u-μP parameter tags survive any history of copies, pickling and transforms.
  Invariant by induction over the operation list (unbounded histories).
-/
import USModel.ParamHistory

open USModel

namespace USProofs.C09

@[simp] theorem bind_ok {ε α β : Type} (a : α) (f : α → Except ε β) : (Except.ok a >>= f) = f a := rfl
@[simp] theorem bind_error {ε α β : Type} (e : ε) (f : α → Except ε β) :
    ((Except.error e : Except ε α) >>= f) = Except.error e := rfl

-- the invariant: tagged, hooks installed, still a parameter, tags equal to the original's
def Inv (t : MupType) (d : Option Nat) (s : PState) : Prop :=
  s.tagged = true ∧ s.hooked = true ∧ s.isParam = true ∧ s.mupType = t ∧ s.depth = d

theorem inv_init (t : MupType) (d : Option Nat) : Inv t d (initState t d) := by
  simp [Inv, initState]

theorem deepcopyStep_hooked {s : PState} (h : s.hooked = true) : deepcopyStep s = s := by
  cases s; cases h; rfl

theorem pickleStep_eq (s : PState) : pickleStep s = s := by
  unfold pickleStep
  split
  · next h => cases s; cases h; rfl
  · rfl

/-- on a hooked parameter the copies are the identity, and no other operation touches a field
    `Inv` reads -/
theorem inv_step (t : MupType) (d : Option Nat) (s s' : PState) (o : HOp) (h : Inv t d s)
    (hs : step s o = .ok s') : Inv t d s' := by
  -- `cases hs` makes `s'` a `{ s with … }` on fields `Inv` does not read; the projections `Inv`
  -- does read reduce to those of `s`, so `h` proves the goal as it stands
  cases o <;> simp only [step, deepcopyStep_hooked h.2.1, pickleStep_eq] at hs <;>
    (try split at hs) <;> cases hs <;> exact h

/-- Every successful history, of any length.  PARTIAL: the full-strength statement "every history
    succeeds" is false on the current tree (`pickle_after_transform_fails`), so the hypothesis
    `runHistory … = ok` is needed. -/
theorem inv_history_partial (t : MupType) (d : Option Nat) (ops : List HOp) (s' : PState)
    (h : runHistory (initState t d) ops = .ok s') : Inv t d s' := by
  have hi := inv_init t d
  generalize initState t d = s at h hi
  induction ops generalizing s with
  | nil => cases h; exact hi
  | cons o os ih =>
    rw [runHistory] at h
    cases hst : step s o with
    | error e => rw [hst] at h; cases h
    | ok s1 => rw [hst] at h; exact ih s1 h (inv_step t d s s1 o hi hst)

theorem step_fails_iff (s : PState) (o : HOp) :
    (∃ e, step s o = .error e) ↔
      (s.holderTransformed = true ∧ (o = .pickleModule ∨ o = .saveLoadModule)) := by
  cases o <;> simp [step] <;> cases s.holderTransformed <;> simp

theorem history_succeeds (ops : List HOp) (hno : ∀ o ∈ ops, o ≠ .pickleModule ∧ o ≠ .saveLoadModule)
    (s : PState) : ∃ s', runHistory s ops = .ok s' := by
  induction ops generalizing s with
  | nil => exact ⟨s, rfl⟩
  | cons o os ih =>
    cases h1 : step s o with
    | error e =>
      exact absurd ((step_fails_iff s o).mp ⟨e, h1⟩).2 (not_or.mpr (hno o List.mem_cons_self))
    | ok s1 =>
      obtain ⟨s', h'⟩ := ih (fun o' ho' => hno o' (List.mem_cons_of_mem _ ho')) s1
      exact ⟨s', by rw [runHistory, h1]; exact h'⟩

/-- Finding F-C09b (counter-example to the full statement): pickling a module returned by a
    library transform raises. -/
theorem pickle_after_transform_fails (t : MupType) (d : Option Nat) :
    runHistory (initState t d) [.applyTransform, .pickleModule] = .error .other := rfl

/-- After any successful history the optimizer rule sees the same type and depth, hence assigns
    the same learning-rate scale as to the original (for any shape and optimizer kind). -/
theorem lr_same (k : OptKind) (t : MupType) (d : Option Nat) (ops : List HOp) (shape : List Nat)
    (s : PState) (h : runHistory (initState t d) ops = .ok s) :
    lrScale (α := Float) k s.mupType shape s.depth = lrScale k t shape d := by
  obtain ⟨_, _, _, h4, h5⟩ := inv_history_partial t d ops s h
  rw [h4, h5]

theorem deepcopyStep_rg (s : PState) : (deepcopyStep s).requiresGrad = s.requiresGrad := by
  unfold deepcopyStep; split <;> rfl

theorem requires_grad_step (s s' : PState) (o : HOp) (h : step s o = .ok s') :
    s'.requiresGrad = (if o = HOp.toggleRequiresGrad then !s.requiresGrad else s.requiresGrad) := by
  cases o <;> simp only [step] at h <;> (try split at h) <;>
    cases h <;> simp [deepcopyStep_rg, pickleStep_eq]

/-- Without the hooks the very first deep copy loses the tags (the state the unrepaired code
    reached after one copy: finding F-C09, now fixed). -/
theorem unhooked_copy_loses_tags (s s' : PState) (h : s.hooked = false)
    (hs : step s .deepcopyParam = .ok s') : s'.tagged = false := by
  simp [step, deepcopyStep, h] at hs
  cases hs; rfl

example : ∃ s, runHistory (initState .weight (some 7))
    [.deepcopyParam, .deepcopyParam, .pickleModule, .half, .applyTransform] = .ok s ∧ Inv .weight (some 7) s := by
  obtain ⟨s, hs⟩ : ∃ s, runHistory (initState .weight (some 7))
      [.deepcopyParam, .deepcopyParam, .pickleModule, .half, .applyTransform] = .ok s := ⟨_, rfl⟩
  exact ⟨s, hs, inv_history_partial _ _ _ _ hs⟩

end USProofs.C09
