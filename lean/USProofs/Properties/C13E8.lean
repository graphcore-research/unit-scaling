/-
  C13 — eight exponent bits (bias 128 > float32's 127: the code multiplies by 2 before rounding and divides after).
  On every normal float32 input below 2^126 — the property's domain for E = 8 — the four stages collapse to the integer
  rounding core on the input's own pattern: `quantise` is mantissa rounding and nothing else.  On float32-subnormal inputs
  (below 2^-126) the input is doubled exactly, rounded by the core and halved exactly: the format's grid there is the
  normal-range grid refined by one bit.
-/
import USProofs.Properties.C13Value

open USModel USModel.F32

namespace USProofs.C13

theorem le_absmax_E8 {M n : ℕ} (h : expo n ≤ 252) : n ≤ absmaxBits 8 M :=
  le_absmax_of_expo_lt ((Nat.lt_succ_of_le h).trans_le (by decide))

/-- `rfl`: the kernel decides `2^7 ≤ 127` to be false -/
theorem quantMag_E8_stages (M off n : ℕ) :
    quantMag 8 M off n = divPow2 (roundCore (23 - M) off (mulPow2 (min n (absmaxBits 8 M)) 1)) 1 := rfl

/-- `1 ≤ expo n ≤ 252`: the normal inputs below 2^126. After the doubling the exponent field is ≤ 253, so the rounded pattern
    stays below the clipping pattern (exponent field 254) and finite. -/
theorem quantMag_E8_eq (M off n : ℕ) (hM : M ≤ 23) (hoff : off < 2 ^ (23 - M))
    (h1 : 1 ≤ expo n) (h2 : expo n ≤ 252) :
    quantMag 8 M off n = roundCore (23 - M) off n := by
  have hr := h1.trans (expo_le_roundCore n (Nat.sub_le 23 M) hoff)
  rw [quantMag_E8_stages, Nat.min_eq_left (le_absmax_E8 h2),
    mulPow2_normal 1 n h1 ((Nat.succ_le_succ h2).trans_lt (by decide)),
    roundCore_add_multiple _ _ _ _ (two_pow_k_dvd_shift M 1),
    divPow2_high ((expo_add _ 1).symm ▸ Nat.lt_succ_of_le hr), Nat.add_sub_cancel]

theorem quantise_E8_laws (M off n : ℕ) (hM : M ≤ 23) (hoff : off < 2 ^ (23 - M))
    (h1 : 1 ≤ expo n) (h2 : expo n ≤ 252) :
    2 ^ (23 - M) ∣ quantMag 8 M off n ∧
    (quantMag 8 M off n = n / 2 ^ (23 - M) * 2 ^ (23 - M) ∨ quantMag 8 M off n = (n / 2 ^ (23 - M) + 1) * 2 ^ (23 - M)) ∧
    (2 ^ (23 - M) ∣ n → quantMag 8 M off n = n) := by
  rw [quantMag_E8_eq M off n hM hoff h1 h2]
  exact ⟨round_core_multiple _ _ _, round_core_neighbour _ _ _ hoff, round_core_fixes _ _ _ hoff⟩

theorem quantise_E8_monotone (M off n n' : ℕ) (hM : M ≤ 23) (hoff : off < 2 ^ (23 - M))
    (h1 : 1 ≤ expo n) (hle : n ≤ n') (h2 : expo n' ≤ 252) :
    quantMag 8 M off n ≤ quantMag 8 M off n' := by
  have hee := expo_mono hle
  rw [quantMag_E8_eq M off n hM hoff h1 (hee.trans h2), quantMag_E8_eq M off n' hM hoff (h1.trans hee) h2]
  exact round_core_monotone _ _ _ _ hle

theorem quantise_E8_value_error (M n : ℕ) (hM : M ≤ 23) (h1 : 1 ≤ expo n) (h2 : expo n ≤ 252) :
    |val (quantMag 8 M (offNearest M) n) - val n|
      ≤ ((2 ^ (23 - M) / 2 : ℕ) : ℚ) * (2 : ℚ) ^ ((expo n : ℤ) - 150) := by
  obtain ⟨hlo, hhi⟩ := expo_bounds n
  rw [quantMag_E8_eq M _ n hM (offNearest_lt M) h1 h2]
  have := round_nearest_value (23 - M) (expo n) n (Nat.sub_le 23 M) h1 hlo hhi
  rwa [Nat.sub_sub_self hM] at this

-- the hypotheses can be met: 1.0625 (0x3F880000) is a normal input below 2^126
example : 1 ≤ expo 0x3F880000 ∧ expo 0x3F880000 ≤ 252 := by decide

/-- `M ≤ 22` makes the rounded pattern even, so the halving is exact (for `M = 23` nothing is rounded). -/
theorem quantMag_E8_sub_eq (M off n : ℕ) (hM : M ≤ 22) (hoff : off < 2 ^ (23 - M)) (hn : n < 2 ^ 23) :
    quantMag 8 M off n = roundCore (23 - M) off (2 * n) / 2 := by
  have he : expo n = 0 := Nat.div_eq_of_lt hn
  have hn2 : 2 * n ≤ 2 ^ 23 + 2 ^ 23 := (Nat.mul_le_mul_left 2 hn.le).trans_eq (Nat.two_mul _)
  have hmul : mulPow2 n 1 = 2 * n := fixOf_injective (by
    rw [fixOf_mulPow2 1 n (he ▸ by decide), fixOf_small (hn.le.trans (Nat.le_add_left _ _)), fixOf_small hn2, pow_one,
      Nat.mul_comm])
  -- the rounded pattern is even and at most `2^24`, so it and its half are in units of `2^-149`, and halving is exact
  have hr : roundCore (23 - M) off (2 * n) ≤ 2 ^ 23 + 2 ^ 23 :=
    roundCore_le_of_dvd hoff (Nat.two_mul _ ▸ two_pow_k_dvd_shift M 2) hn2
  have h2 : 2 ^ 1 ∣ fixOf (roundCore (23 - M) off (2 * n)) := by
    rw [fixOf_small hr]
    exact Nat.dvd_trans (Nat.pow_dvd_pow 2 (Nat.le_sub_of_add_le' (Nat.succ_le_succ hM))) (round_core_multiple _ _ _)
  rw [quantMag_E8_stages, Nat.min_eq_left (le_absmax_E8 (he ▸ Nat.zero_le _)), hmul]
  apply fixOf_injective
  rw [fixOf_divPow2, rneShift_exact _ _ h2, fixOf_small hr, fixOf_small ((Nat.div_le_self _ _).trans hr), pow_one]

theorem quantise_E8_sub_laws (M off n : ℕ) (hM : M ≤ 22) (hoff : off < 2 ^ (23 - M)) (hn : n < 2 ^ 23) :
    2 ^ (22 - M) ∣ quantMag 8 M off n ∧ (2 ^ (22 - M) ∣ n → quantMag 8 M off n = n) := by
  rw [quantMag_E8_sub_eq M off n hM hoff hn]
  have hs : 2 ^ (23 - M) = 2 * 2 ^ (22 - M) := by rw [← pow_succ', ← Nat.sub_add_comm hM]
  constructor
  · obtain ⟨c, hc⟩ := round_core_multiple (23 - M) off (2 * n)
    rw [hc, hs, Nat.mul_assoc, Nat.mul_div_cancel_left _ Nat.two_pos]
    exact Nat.dvd_mul_right _ _
  · intro hd
    rw [round_core_fixes _ _ _ hoff (hs ▸ Nat.mul_dvd_mul_left 2 hd), Nat.mul_div_cancel_left _ Nat.two_pos]

end USProofs.C13
