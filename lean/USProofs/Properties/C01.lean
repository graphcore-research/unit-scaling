/-
  C01 — scaled functions equal their PyTorch counterparts up to one data-independent scalar.

  PyTorch's op is an arbitrary `F : DOp X Y`; tensors are elements of arbitrary types with a
  scalar action.  The scale is a function of the configuration alone (it has no tensor
  argument), which is what "never on tensor values" means in the model.
-/
import USModel.Autograd
import USModel.Validate
import USProofs.RealInst
import USProofs.Properties.C05

open USModel

namespace USProofs.C01

section forward
variable {A B C Y : Type} [SMul ℝ A] [SMul ℝ B] [SMul ℝ C] [SMul ℝ Y]

theorem scaled1_fwd (f b : ℝ) (F : DOp A Y) (x : A) : (scaled1 f b F).fwd x = f • F.fwd x := rfl
theorem scaled2_fwd (f a b : ℝ) (F : DOp (A × B) Y) (x : A × B) :
    (scaled2 f a b F).fwd x = f • F.fwd x := rfl
theorem scaled3_fwd (f a b c : ℝ) (F : DOp (A × B × C) Y) (x : A × B × C) :
    (scaled3 f a b c F).fwd x = f • F.fwd x := rfl

/-- Losses: the value is `f •` PyTorch's sum-reduced loss of the temperature-scaled logits. -/
theorem cross_entropy_fwd (f mult b : ℝ) (Fsum : DOp A Y) (x : A) :
    (crossEntropyOp f mult b Fsum).fwd x = f • Fsum.fwd (mult • x) := rfl
theorem mse_fwd (f b : ℝ) (Fsum : DOp (A × A) Y) (x : A × A) :
    (mseOp f b Fsum).fwd x = f • Fsum.fwd x := rfl
end forward

theorem logInterp_pos (a lo hi : ℝ) : 0 < logInterp a lo hi := Real.exp_pos _

theorem powNegHalf_pos {x : ℝ} (hx : 0 < x) : 0 < powNegHalf x := Real.rpow_pos_of_pos hx _

theorem powHalf_pos {x : ℝ} (hx : 0 < x) : 0 < powHalf x := Real.rpow_pos_of_pos hx _

theorem constraintFn_pos {n : String} {l : List ℝ} (hl : ∀ s ∈ l, 0 < s) {s : ℝ}
    (h : constraintFn n l = .ok s) : 0 < s := by
  rcases C05.constraintFn_ok h with hs | ⟨hne, rfl | rfl | rfl⟩
  exacts [hl s hs, C05.gmean_pos hl, C05.hmean_pos hl hne, C05.amean_pos hl hne]

theorem applyConstraint_pos {c : Option String} {l l' : List ℝ} (hl : ∀ s ∈ l, 0 < s)
    (h : applyConstraint c l = .ok l') : ∀ s ∈ l', 0 < s := by
  rcases C05.applyConstraint_ok h with rfl | ⟨n, s, hs, rfl⟩
  · exact hl
  · exact fun x hx => List.eq_of_mem_replicate hx ▸ constraintFn_pos hl hs

theorem elementwise_pos (c : Option String) (out gin : ℝ) (ho : 0 < out) (hg : 0 < gin)
    (s : OpScales ℝ) (h : elementwise c out gin = .ok s) : 0 < s.fwd ∧ ∀ b ∈ s.bwd, 0 < b :=
  List.forall_mem_cons.1
    (applyConstraint_pos (List.forall_mem_cons.2 ⟨ho, List.forall_mem_singleton.2 hg⟩) (C05.elementwise_ok h))

theorem gelu_pos (mult : ℝ) (c : Option String) (s : OpScales ℝ) (h : geluScales mult c = .ok s) :
    0 < s.fwd ∧ ∀ b ∈ s.bwd, 0 < b :=
  elementwise_pos c _ _ (logInterp_pos _ _ _) (logInterp_pos _ _ _) s h
theorem silu_pos (mult : ℝ) (c : Option String) (s : OpScales ℝ) (h : siluScales mult c = .ok s) :
    0 < s.fwd ∧ ∀ b ∈ s.bwd, 0 < b :=
  elementwise_pos c _ _ (logInterp_pos _ _ _) (logInterp_pos _ _ _) s h
theorem softmax_pos (n : ℕ) (mult : ℝ) (c : Option String) (s : OpScales ℝ)
    (h : softmaxScales n mult c = .ok s) : 0 < s.fwd ∧ ∀ b ∈ s.bwd, 0 < b :=
  elementwise_pos c _ _ (logInterp_pos _ _ _) (logInterp_pos _ _ _) s h
theorem silu_glu_pos (mult : ℝ) : 0 < (siluGluScales mult).fwd := logInterp_pos _ _ _

theorem dropout_pos (p : ℝ) (hp : p < 1) : 0 < (dropoutScales p).fwd :=
  powHalf_pos (sub_pos.2 (by rwa [nat_real, Nat.cast_one]))

theorem matmul_pos (ls inner rs : ℕ) (h1 : 0 < ls) (h2 : 0 < inner) (h3 : 0 < rs)
    (c : Option String) (s : OpScales ℝ) (h : matmulScales ls inner rs c = .ok s) :
    0 < s.fwd ∧ ∀ b ∈ s.bwd, 0 < b := by
  refine List.forall_mem_cons.1 (applyConstraint_pos ?_ (C05.matmul_ok h))
  simp only [List.forall_mem_cons, List.not_mem_nil, false_imp_iff, implies_true, and_true]
  exact ⟨powNegHalf_pos (Nat.cast_pos.2 h2), powNegHalf_pos (Nat.cast_pos.2 h3),
    powNegHalf_pos (Nat.cast_pos.2 h1)⟩

theorem linear_pos (fo fi numel : ℕ) (h1 : 0 < fo) (h2 : 0 < fi) (h3 : 0 < numel / fi)
    (sp0 sp1 sp2 : ℝ) (c : Option String) (s : OpScales ℝ)
    (h : linearScales fo fi numel sp0 sp1 sp2 c = .ok s) : 0 < s.fwd ∧ ∀ b ∈ s.bwd, 0 < b := by
  have rp : ∀ {n : ℕ} (e : ℝ), 0 < n → (0 : ℝ) < 1 / (n : ℝ) ^ e := fun e hn =>
    one_div_pos.2 (Real.rpow_pos_of_pos (Nat.cast_pos.2 hn) _)
  obtain ⟨g, hc, hb⟩ := C05.linear_ok h
  have hp := applyConstraint_pos (List.forall_mem_cons.2 ⟨rp sp0 h2, List.forall_mem_singleton.2 (rp sp1 h1)⟩) hc
  rw [hb]
  simp only [List.forall_mem_cons, List.not_mem_nil, false_imp_iff, implies_true, and_true] at hp ⊢
  exact ⟨hp.1, hp.2, rp sp2 h3, rp sp2 h3⟩

theorem sdpa_pos (n d : ℕ) (p mult : ℝ) (hp : p < 1) (c : Bool) : 0 < sdpaScale n d p mult c :=
  div_pos (dropout_pos p hp) (logInterp_pos _ _ _)

theorem norm_fwd_one (n m : ℕ) : (normScales (α := ℝ) n m).fwd = 1 := nat_one
theorem norm_input_grad_one (n m : ℕ) : (normScales (α := ℝ) n m).bwd.head? = some 1 :=
  congrArg some nat_one
theorem embedding_fwd_one (v b : ℕ) : (embeddingScales (α := ℝ) v b).fwd = 1 := nat_one
theorem cross_entropy_sum_fwd_one (b v : ℕ) : (crossEntropyScales (α := ℝ) b v false).fwd = 1 :=
  nat_one
theorem mse_sum_fwd_one (n : ℕ) : (mseScales (α := ℝ) n false).fwd = 1 := nat_one
/-- the batch size / element count: PyTorch's mean divisor when no target is ignored -/
theorem cross_entropy_mean_fwd (b v : ℕ) : (crossEntropyScales (α := ℝ) b v true).fwd = 1 / b :=
  congrArg (· / (b : ℝ)) nat_one
theorem mse_mean_fwd (n : ℕ) : (mseScales (α := ℝ) n true).fwd = 1 / n :=
  congrArg (· / (n : ℝ)) nat_one

/-- Partial (finding F-C01): with `k < b` non-ignored targets PyTorch's mean divides by `k`,
    the library by `b`; the two agree iff no target is ignored. -/
theorem ce_mean_eq_ref_partial (b k : ℕ) (hb : 0 < b) (hk : 0 < k) (S : ℝ) (hS : S ≠ 0) :
    (1 / (b : ℝ)) * S = S / k ↔ k = b := by
  have hb' : (b : ℝ) ≠ 0 := Nat.cast_ne_zero.2 hb.ne'
  have hk' : (k : ℝ) ≠ 0 := Nat.cast_ne_zero.2 hk.ne'
  rw [one_div_mul_eq_div, div_eq_div_iff hb' hk', mul_right_inj' hS, Nat.cast_inj]

theorem validate_rejects (sig : Sig) (pos : List String) (kw : List (String × String))
    (n v d : String) (hb : (n, v) ∈ boundArgs sig pos kw) (hu : sig.unsupported.lookup n = some d)
    (hv : v ≠ d) : validate sig pos kw = .error .valueError := by
  unfold validate
  rw [if_pos]
  rw [List.any_eq_true]
  exact ⟨(n, v), hb, by simp only [hu, bne_iff_ne, ne_eq, hv, not_false_eq_true]⟩

theorem validate_accepts (sig : Sig) (pos : List String) (kw : List (String × String))
    (h : ∀ n v, (n, v) ∈ boundArgs sig pos kw → ∀ d, sig.unsupported.lookup n = some d → v = d) :
    validate sig pos kw = .ok () := by
  unfold validate
  rw [if_neg]
  rw [List.any_eq_true]
  rintro ⟨⟨n, v⟩, hb, hx⟩
  cases hl : sig.unsupported.lookup n with
  | none => simp only [hl, Bool.false_eq_true] at hx
  | some d =>
    have hv : v = d := h n v hb d hl
    simp only [hl, hv, bne_self_eq_false, Bool.false_eq_true] at hx

example : validate ⟨["input", "p", "training", "inplace"], [("inplace", "False")]⟩
    ["x", "0.5", "True", "True"] [] = .error .valueError := by decide +kernel
example : validate ⟨["input", "p", "training", "inplace"], [("inplace", "False")]⟩
    ["x", "0.5"] [("inplace", "False")] = .ok () := by decide +kernel

end USProofs.C01
