/-
  C13 at the level of values.  `val n = fixOf n · 2^-149` turns the integer facts of C13Pattern into statements about
  exact rationals; so the bit-level statements about `roundCore` (C13.lean) say that the result is within half the
  format's spacing of the input, that no point of the grid is nearer, and that its value is a value of the format's own
  encoding (`fmtVal`, defined independently from sign / exponent field / mantissa field).
-/
import USProofs.Properties.C13Pattern
import USProofs.Properties.C14
import Mathlib.Data.Rat.Defs
import Mathlib.Algebra.Order.Field.Power
import Mathlib.Algebra.Order.Field.Rat
import Mathlib.Tactic.Ring
import Mathlib.Tactic.Positivity

open USModel USModel.F32

namespace USProofs.C13

theorem two_zpow_add (a b : ℤ) : (2 : ℚ) ^ (a + b) = 2 ^ a * 2 ^ b := zpow_add₀ two_ne_zero a b

theorem two_zpow_pos (a : ℤ) : (0 : ℚ) < 2 ^ a := by positivity

theorem cast_two_pow (k : ℕ) : ((2 ^ k : ℕ) : ℚ) = 2 ^ (k : ℤ) := by
  rw [Nat.cast_pow, Nat.cast_ofNat, zpow_natCast]

/-- the normal form of every value below is `(x : ℚ) * 2 ^ (a : ℤ)` -/
theorem cast_mul_two_pow (x k : ℕ) (a : ℤ) : ((x * 2 ^ k : ℕ) : ℚ) * 2 ^ a = x * 2 ^ ((k : ℤ) + a) := by
  rw [Nat.cast_mul, cast_two_pow, mul_assoc, two_zpow_add]

/-- units of `2^-149` scaled by `2^(e-1)` are the units in the last place of binade `e` -/
theorem cast_mul_ulp (x : ℕ) {e : ℕ} (he : 1 ≤ e) :
    ((x * 2 ^ (e - 1) : ℕ) : ℚ) * 2 ^ (-149 : ℤ) = x * 2 ^ ((e : ℤ) - 150) := by
  rw [cast_mul_two_pow, Nat.cast_sub he, Nat.cast_one, sub_add, sub_neg_eq_add]
  rfl  -- `1 + 149 = 150` in the exponent

theorem val_eq_fix (n : ℕ) : val n = (fixOf n : ℚ) * (2 : ℚ) ^ (-149 : ℤ) := by
  unfold val
  by_cases h : n < 2 ^ 23
  · rw [if_pos h, fixOf_small (h.le.trans (Nat.le_add_left _ _))]
  · have he : 1 ≤ expo n := le_expo_iff.mpr ((Nat.one_mul _).trans_le (Nat.le_of_not_lt h))
    rw [if_neg h, fixOf, if_neg (Nat.ne_of_gt he), cast_mul_ulp _ he]
    rfl  -- `val` spells `expo` and `mant` out as `/ 2^23`, `% 2^23`

theorem val_nonneg (n : ℕ) : 0 ≤ val n := by
  rw [val_eq_fix n]; exact mul_nonneg (Nat.cast_nonneg _) (two_zpow_pos _).le

theorem val_zero : val 0 = 0 := by rw [val_eq_fix]; exact zero_mul _

theorem val_strictMono : StrictMono val := fun a b h => by
  rw [val_eq_fix a, val_eq_fix b]
  exact mul_lt_mul_of_pos_right (Nat.cast_lt.mpr (fixOf_strict h)) (two_zpow_pos _)

theorem val_mono {a b : ℕ} (h : a ≤ b) : val a ≤ val b := val_strictMono.monotone h

theorem val_strict {a b : ℕ} (h : val a < val b) : a < b := val_strictMono.lt_iff_lt.mp h

theorem val_injective {a b : ℕ} (h : val a = val b) : a = b := val_strictMono.injective h

theorem val_small {q : ℕ} (hq : q ≤ 2 ^ 23 + 2 ^ 23) : val q = (q : ℚ) * (2 : ℚ) ^ (-149 : ℤ) := by
  rw [val_eq_fix, fixOf_small hq]

/-- the unit in the last place of binade `e` is `2^(e−150) = 2^(e−127)·2^-23` -/
theorem val_binade {e q : ℕ} (he : 1 ≤ e) (hlo : e * 2 ^ 23 ≤ q) (hhi : q ≤ (e + 1) * 2 ^ 23) :
    val q = ((q : ℚ) - ((e - 1) * 2 ^ 23 : ℕ)) * (2 : ℚ) ^ ((e : ℤ) - 150) := by
  rw [val_eq_fix, fixOf_binade e q hlo hhi, cast_mul_ulp _ he, Nat.cast_sub (pred_mul_le hlo)]

theorem val_sub_binade {e a b : ℕ} (he : 1 ≤ e) (ha : e * 2 ^ 23 ≤ a) (ha' : a ≤ (e + 1) * 2 ^ 23)
    (hb : e * 2 ^ 23 ≤ b) (hb' : b ≤ (e + 1) * 2 ^ 23) :
    val b - val a = ((b : ℚ) - a) * (2 : ℚ) ^ ((e : ℤ) - 150) := by
  rw [val_binade he hb hb', val_binade he ha ha', ← sub_mul, sub_sub_sub_cancel_right]

theorem val_affine (e m : ℕ) (he : 1 ≤ e) (hm : m ≤ 2 ^ 23) :
    val (e * 2 ^ 23 + m) = ((2 ^ 23 + m : ℕ) : ℚ) * (2 : ℚ) ^ ((e : ℤ) - 150) := by
  rw [val_eq_fix, fixOf_fields he hm, cast_mul_ulp _ he]

theorem abs_natCast_sub_mul_le {a b c : ℕ} (h1 : a ≤ b + c) (h2 : b ≤ a + c) {u : ℚ} (hu : 0 ≤ u) :
    |((a : ℚ) - b) * u| ≤ c * u := by
  rw [abs_mul, abs_of_nonneg hu]
  exact mul_le_mul_of_nonneg_right (abs_sub_le_iff.mpr
    ⟨sub_le_iff_le_add'.mpr ((Nat.cast_le.mpr h1).trans_eq (Nat.cast_add b c)),
      sub_le_iff_le_add'.mpr ((Nat.cast_le.mpr h2).trans_eq (Nat.cast_add a c))⟩) hu

theorem abs_val_sub_le {e a b x : ℕ} (he : 1 ≤ e) (ha : e * 2 ^ 23 ≤ a) (ha' : a ≤ (e + 1) * 2 ^ 23)
    (hb : e * 2 ^ 23 ≤ b) (hb' : b ≤ (e + 1) * 2 ^ 23) (h1 : b ≤ a + x) (h2 : a ≤ b + x) :
    |val b - val a| ≤ (x : ℚ) * (2 : ℚ) ^ ((e : ℤ) - 150) := by
  rw [val_sub_binade he ha ha' hb hb']
  exact abs_natCast_sub_mul_le h1 h2 (two_zpow_pos _).le

/-- Nearest, on values: for a normal float32 pattern `q` of binade `e` the rounded result differs from it by at most half
    the spacing `2^k · 2^(e−150)` of the `k`-bit-coarser grid. -/
theorem round_nearest_value (k e q : ℕ) (hk : k ≤ 23) (he : 1 ≤ e)
    (hlo : e * 2 ^ 23 ≤ q) (hhi : q < (e + 1) * 2 ^ 23) :
    |val (roundCore k (offNearest (23 - k)) q) - val q|
      ≤ ((2 ^ k / 2 : ℕ) : ℚ) * (2 : ℚ) ^ ((e : ℤ) - 150) := by
  obtain ⟨h1, h2⟩ := round_core_nearest k q hk
  obtain ⟨hr, hr'⟩ := roundCore_binade hk (offNearest_lt' hk) hlo hhi.le
  exact abs_val_sub_le he hlo hhi.le hr hr' h1 h2

/-- Nearest of the whole grid (on the down-scaled patterns, where the format's values are exactly the
    multiples of `2^k`, `k = 23 − M`): for a normal pattern `q` of binade `e`, no multiple `c` of `2^k`
    — in any binade — has a value closer to `val q` than the nearest-rounded result. -/
theorem round_nearest_of_grid (k e q c : ℕ) (hk : k ≤ 23) (he : 1 ≤ e)
    (hlo : e * 2 ^ 23 ≤ q) (hhi : q < (e + 1) * 2 ^ 23) (hc : 2 ^ k ∣ c) :
    |val (roundCore k (offNearest (23 - k)) q) - val q| ≤ |val c - val q| := by
  obtain ⟨hl, hu⟩ := enclosing_in_binade k e q hk hlo hhi
  obtain ⟨hn1, hn2⟩ := round_core_nearest k q hk
  obtain ⟨hr, hr'⟩ := roundCore_binade hk (offNearest_lt' hk) hlo hhi.le
  have hnb := round_core_neighbour k _ q (offNearest_lt' hk)
  generalize roundCore k (offNearest (23 - k)) q = r at *
  have hlq := Nat.div_mul_le_self q (2 ^ k)
  have hqu : q < q / 2 ^ k * 2 ^ k + 2 ^ k := Nat.lt_div_mul_add (Nat.two_pow_pos k)
  rw [Nat.succ_mul] at hu hnb
  generalize hL : q / 2 ^ k * 2 ^ k = lo at *
  -- the rounded pattern is the nearer of the two enclosing grid points `lo ≤ q < lo + 2^k`, also in value
  obtain ⟨⟨a1, a2⟩, b1, b2⟩ := nearer_end hlq hqu hnb hn1 hn2
  have hD1 := abs_val_sub_le he hlo hhi.le hr hr' a1 a2
  have hD2 := abs_val_sub_le he hlo hhi.le hr hr' b1 b2
  rw [Nat.cast_sub hlq, ← val_sub_binade he hl (le_trans hlq hhi.le) hlo hhi.le] at hD1
  rw [Nat.cast_sub hqu.le, ← val_sub_binade he hlo hhi.le (le_trans hlo hqu.le) hu] at hD2
  -- any other grid point lies at or beyond one of the two
  obtain ⟨m, rfl⟩ := hc
  rcases Nat.lt_or_ge m (q / 2 ^ k + 1) with hm | hm
  · have := val_mono (show 2 ^ k * m ≤ lo by
      rw [← hL, Nat.mul_comm]; exact Nat.mul_le_mul_right _ (Nat.lt_succ_iff.mp hm))
    exact le_trans hD1 (le_trans (by rw [neg_sub]; exact sub_le_sub_left this _) (neg_le_abs _))
  · have := val_mono (show lo + 2 ^ k ≤ 2 ^ k * m by
      rw [← hL, ← Nat.succ_mul, Nat.mul_comm]; exact Nat.mul_le_mul_left _ hm)
    exact le_trans hD2 (le_trans (sub_le_sub_right this _) (le_abs_self _))

theorem val_eq_mul_of_fix {a b d : ℕ} (h : fixOf a = fixOf b * 2 ^ d) : val a = val b * (2 : ℚ) ^ (d : ℤ) := by
  rw [val_eq_fix, h, cast_mul_two_pow, two_zpow_add, val_eq_fix, mul_right_comm, mul_assoc]

theorem val_mulPow2_any : ∀ (d r : ℕ), expo r + d < 255 → val (mulPow2 r d) = val r * (2 : ℚ) ^ (d : ℤ) :=
  fun d r h => val_eq_mul_of_fix (fixOf_mulPow2 d r h)

theorem val_divPow2_exact (n d : ℕ) (h : d < expo n) :
    val (divPow2 n d) = val n * (2 : ℚ) ^ (-(d : ℤ)) := by
  rw [val_eq_mul_of_fix (fixOf_divPow2_high h).symm, mul_assoc, ← two_zpow_add, add_neg_cancel, zpow_zero, mul_one]

/-- a float32-subnormal quotient is within `2^-150`, half a unit of float32's subnormal grid, of the exact one:
    correctly rounded -/
theorem val_divPow2_near (n d : ℕ) (hd : 1 ≤ d) (h : expo n ≤ d) :
    |val (divPow2 n d) - val n * (2 : ℚ) ^ (-(d : ℤ))| ≤ (2 : ℚ) ^ (-150 : ℤ) := by
  obtain ⟨h1, h2⟩ := rneShift_near (fixOf n) d hd
  -- in units of `2^(-149-d)` the two values are `q·2^d` and `fixOf n`, and the bound is `2^(d-1)`
  have key := abs_natCast_sub_mul_le h1 h2 (two_zpow_pos (-149 - d)).le
  have e2 : ((d - 1 : ℕ) : ℤ) + (-149 - d) = -150 := by omega
  rwa [sub_mul, cast_mul_two_pow, add_sub_cancel, ← fixOf_divPow2, ← val_eq_fix, cast_two_pow,
    ← two_zpow_add, e2, sub_eq_add_neg (-149 : ℤ), two_zpow_add, ← mul_assoc, ← val_eq_fix] at key

/-- Representable, on values: a normal pattern whose low `23 − M` mantissa bits are zero (what `roundCore` produces)
    has a value with at most `M` mantissa bits … -/
theorem val_coarse_pattern (M e m : ℕ) (hM : M ≤ 23) (he : 1 ≤ e) (hm : m < 2 ^ M) :
    val (e * 2 ^ 23 + m * 2 ^ (23 - M)) = ((2 ^ M + m : ℕ) : ℚ) * (2 : ℚ) ^ ((e : ℤ) - 127 - M) := by
  have hm' : m * 2 ^ (23 - M) ≤ 2 ^ 23 := by rw [← pow_mul_pow_sub 2 hM]; exact Nat.mul_le_mul_right _ hm.le
  rw [val_affine e _ he hm', ← pow_mul_pow_sub 2 hM, ← Nat.add_mul, cast_mul_two_pow, Nat.cast_sub hM]
  congr 2
  ring

theorem fmtVal_zero (E M m : ℕ) : fmtVal E M 0 m = (m : ℚ) * (2 : ℚ) ^ ((1 : ℤ) - (2 : ℤ) ^ (E - 1) - M) := by
  simp only [fmtVal, if_pos]

theorem fmtVal_pos {e : ℕ} (he : 1 ≤ e) (E M m : ℕ) :
    fmtVal E M e m = ((2 ^ M + m : ℕ) : ℚ) * (2 : ℚ) ^ ((e : ℤ) - (2 : ℤ) ^ (E - 1) - M) := by
  simp only [fmtVal, if_neg (Nat.ne_of_gt he)]

/-- …which is the format's own encoding with the exponent field re-biased from 127 to `2^(E-1)`. -/
theorem val_eq_fmtVal (E M e m : ℕ) (hB : 2 ^ (E - 1) ≤ 127) (hM : M ≤ 23) (he : 127 - 2 ^ (E - 1) < e)
    (hm : m < 2 ^ M) :
    val (e * 2 ^ 23 + m * 2 ^ (23 - M)) = fmtVal E M (e - (127 - 2 ^ (E - 1))) m := by
  rw [val_coarse_pattern M e m hM (Nat.zero_lt_of_lt he) hm, fmtVal_pos (Nat.sub_pos_of_lt he), Nat.cast_sub he.le,
    Nat.cast_sub hB, Nat.cast_pow]
  congr 2
  ring

end USProofs.C13

namespace USProofs.C14

open USModel USModel.F32 USProofs.C13

/-- the fractional position of a value between its neighbours is the discarded bits read as a fraction -/
theorem frac_position_value (k e q : ℕ) (hk : k ≤ 23) (he : 1 ≤ e)
    (hlo : e * 2 ^ 23 ≤ q) (hhi : q < (e + 1) * 2 ^ 23) :
    (val q - val (q / 2 ^ k * 2 ^ k)) / (val ((q / 2 ^ k + 1) * 2 ^ k) - val (q / 2 ^ k * 2 ^ k))
      = ((q % 2 ^ k : ℕ) : ℚ) / ((2 ^ k : ℕ) : ℚ) := by
  obtain ⟨h1, h2⟩ := enclosing_in_binade k e q hk hlo hhi
  have h1' := le_trans (Nat.div_mul_le_self q (2 ^ k)) hhi.le
  rw [val_sub_binade he h1 h1' hlo hhi.le,
    val_sub_binade he h1 h1' (le_trans h1 (Nat.mul_le_mul_right _ (Nat.le_succ _))) h2,
    mul_div_mul_right _ _ (two_zpow_pos _).ne']
  congr 1
  · rw [sub_eq_iff_eq_add, ← Nat.cast_add, Nat.mod_add_div']
  · rw [Nat.succ_mul, Nat.cast_add, add_sub_cancel_left]

/-- Exactly proportional probability, on values: with all discarded bits used, the fraction of the `2^k` equally likely
    draws that round a normal pattern up equals the fractional position of its value between its two representable
    neighbours. -/
theorem sr_prob_exact_value (k e q : ℕ) (hk : k ≤ 23) (he : 1 ≤ e)
    (hlo : e * 2 ^ 23 ≤ q) (hhi : q < (e + 1) * 2 ^ 23) :
    ((countUpCore k 0 q : ℕ) : ℚ) / ((2 ^ k : ℕ) : ℚ)
      = (val q - val (q / 2 ^ k * 2 ^ k)) / (val ((q / 2 ^ k + 1) * 2 ^ k) - val (q / 2 ^ k * 2 ^ k)) := by
  rw [frac_position_value k e q hk he hlo hhi, sr_prob_exact]

end USProofs.C14
