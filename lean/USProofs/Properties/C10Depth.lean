/-
  C10 (continued) — the learning-rate scale genuinely depends on the depth tag and, for rank-2/3
  bias / norm parameters under SGD with an output-scaled readout, on the length (first dim), not on
  the fan-in.  These are the statements that make an under-keyed cache of the scale (keyed by type
  and shape only) or a fan-in based rewrite of the vector rule unsound: they differ from the model
  on an explicit, non-empty set of inputs.
-/
import USProofs.Properties.C10

open USModel

namespace USProofs.C10Depth
open USProofs.C10

theorem depthFactor_injective {d₁ d₂ : ℕ} (h : depthFactor (some d₁) = depthFactor (some d₂)) :
    d₁ = d₂ :=
  Nat.cast_injective ((Real.sqrt_inj (Nat.cast_nonneg d₁) (Nat.cast_nonneg d₂)).mp
    (eq_of_one_div_eq_one_div h))

theorem depthFactor_one : depthFactor (some 1) = depthFactor none := by
  rw [depthFactor, depthFactor, Nat.cast_one, Real.sqrt_one, one_div_one]

theorem depthFactor_ne_zero {d : Option ℕ} (hd : ∀ k, d = some k → 0 < k) : depthFactor d ≠ 0 := by
  cases d with
  | none => exact one_ne_zero
  | some k => exact one_div_ne_zero (Real.sqrt_pos.mpr (Nat.cast_pos.mpr (hd k rfl))).ne'

theorem depthFactor_some_ne_none {d : ℕ} (hd : 1 < d) : depthFactor (some d) ≠ depthFactor none :=
  fun h => hd.ne' (depthFactor_injective (h.trans depthFactor_one.symm))

theorem lr_adam_depth_separates_other (t : MupType) (ht : t ≠ .weight) (shape : List ℕ)
    {d₁ d₂ : ℕ} (h₁ : 0 < d₁) (h₂ : 0 < d₂) (hne : d₁ ≠ d₂) :
    lrScaleAdam (α := ℝ) t shape (some d₁) ≠ lrScaleAdam t shape (some d₂) := by
  rw [lr_adam_other t ht, lr_adam_other t ht]
  exact fun h => hne (depthFactor_injective (Except.ok.inj h))

theorem lr_adam_depth_separates (t : MupType) (shape : List ℕ) {d₁ d₂ : ℕ} (h₁ : 0 < d₁)
    (h₂ : 0 < d₂) (hne : d₁ ≠ d₂) (f : ℕ) (hf : fanIn shape = .ok f) (hfp : 0 < f) :
    lrScaleAdam (α := ℝ) t shape (some d₁) ≠ lrScaleAdam t shape (some d₂) := by
  by_cases ht : t = .weight
  · rw [ht, lr_adam_weight shape f hf, lr_adam_weight shape f hf]
    have hc : 1 / Real.sqrt f ≠ 0 := one_div_ne_zero (Real.sqrt_pos.mpr (Nat.cast_pos.mpr hfp)).ne'
    exact fun h => hne (depthFactor_injective (mul_right_cancel₀ hc (Except.ok.inj h)))
  · exact lr_adam_depth_separates_other t ht shape h₁ h₂ hne

theorem lr_sgd_out_vector_not_fan_in (t : MupType) (ht : t = .bias ∨ t = .norm) (n m : ℕ)
    (rest : List ℕ) (d : Option ℕ) (hd : ∀ k, d = some k → 0 < k) (hnm : n ≠ m) :
    lrScaleSgdOut (α := ℝ) t (n :: rest) d ≠ .ok (depthFactor d * m) := by
  rw [lr_sgd_out_vector t ht]
  exact fun h => hnm (Nat.cast_injective (mul_left_cancel₀ (depthFactor_ne_zero hd) (Except.ok.inj h)))

example : lrScaleAdam (α := ℝ) .weight [4, 9] (some 1) ≠ lrScaleAdam .weight [4, 9] (some 4) :=
  lr_adam_depth_separates .weight [4, 9] (by decide) (by decide) (by decide) 9 rfl (by decide)

example : lrScaleSgdOut (α := ℝ) .bias [3, 8] none ≠ .ok (depthFactor none * (8 : ℕ)) :=
  lr_sgd_out_vector_not_fan_in .bias (Or.inl rfl) 3 8 [8] none nofun (by decide)

end USProofs.C10Depth
