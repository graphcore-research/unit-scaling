/-
  C05 — with forward and backward scale collapsed to one value a unit-scaled op delivers true gradients.
-/
import USProofs.TrueGrad

open USModel

namespace USProofs.C05

section
variable {X Y : Type} [NormedAddCommGroup X] [InnerProductSpace ℝ X]
  [NormedAddCommGroup Y] [InnerProductSpace ℝ Y]

/-- If PyTorch's op `F` is a true-gradient pair at `x`, the
    unit-scaled op with equal forward and backward scale `a` is a true-gradient pair at `x`: the
    gradient it delivers is the derivative of the function it actually computes. -/
theorem constrained_true_grad (F : DOp X Y) (x : X) (a : ℝ) (hF : DOp.TrueAt F x) :
    DOp.TrueAt (scaled1 a a F) x :=
  -- `scaled1 a a F` unfolds to `⟨fun y => a • F.fwd y, fun y g => a • F.vjp y g⟩`
  IsVJPAt.const_smul hF a

/-- Unconstrained: the delivered gradient is `b/a` times the true one (for `a ≠ 0`). -/
theorem unconstrained_grad_ratio (F : DOp X Y) (x : X) (a b : ℝ) (g : Y) :
    (scaled1 a b F).vjp x g = b • F.vjp x g := rfl

end

end USProofs.C05
