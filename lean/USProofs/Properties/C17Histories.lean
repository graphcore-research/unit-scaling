/-
  C17 — the `rerun` flag and calling a module (`callM`: the accumulated backends run once, then the call is cached);
  histories: transforms interleaved with calls of the intermediate modules.
-/
import USModel.Backends

open USModel
namespace USProofs.C17

/-- every transform marks the module for (re)running its composed backends -/
theorem transform_sets_rerun (s : MState) (x : Transform) : (applyT s x).rerun = true := by
  cases x <;> rfl

theorem applyT_backends_congr (s s' : MState) (x : Transform) (h : s.backends = s'.backends) :
    (applyT s x).backends = (applyT s' x).backends := by
  cases x <;> simp [applyT, unitScale, applyTransform, h]

theorem callM_backends (s : MState) : (callM s).backends = s.backends := by
  unfold callM; split <;> rfl

theorem callM_rerun (s : MState) : (callM s).rerun = false := by
  unfold callM; split <;> simp_all

theorem repeat_stable (s : MState) : callM (callM s) = callM s :=
  if_neg (by simp [callM_rerun])

/-- the first call after a transform runs all backends accumulated so far, once, in list order -/
theorem call_runs_all (s : MState) (h : s.rerun = true) :
    (callM s).executed = s.executed ++ [s.backends] ∧ (callM s).rerun = false := by
  simp [callM, h]

/-- calling an intermediate module before nesting further does not change what the outer module runs -/
theorem intermediate_calls_irrelevant (s : MState) (x : Transform) :
    (applyT (callM s) x).backends = (applyT s x).backends ∧ (applyT (callM s) x).rerun = true :=
  ⟨applyT_backends_congr _ _ x (callM_backends s), transform_sets_rerun _ x⟩

/-- for every history the backend list of the final module is the one obtained from the transforms alone -/
theorem calls_never_matter (s : MState) (as : List Action) :
    (runActions s as).backends = (runActions s (as.filter (fun a => a != Action.call))).backends := by
  unfold runActions
  rw [List.foldl_filter]
  -- both runs keep the same backend list: a call does not touch it, a transform reads nothing else
  refine List.foldl_rel (r := fun t t' : MState => t.backends = t'.backends) rfl fun a _ t t' h => ?_
  cases a with
  | call => exact (callM_backends t).trans h
  | t x => exact applyT_backends_congr t t' x h

theorem call_settles (s : MState) (as : List Action) :
    (callM (runActions s as)).rerun = false ∧ callM (callM (runActions s as)) = callM (runActions s as) :=
  ⟨callM_rerun _, repeat_stable _⟩

end USProofs.C17
