/-
  C14 — the counts for the definition the driver executes.  `FPFormat.quantise` is an injective image of the integer core
  applied to one pattern `q`, so the number of random draws for which it rounds away from zero is the core's count on `q`
  — to which `sr_count`, `sr_prob_exact`, `sr_prob_half_ulp` and `sr_prob_exact_value` apply.  For E ≤ 7, on every
  magnitude, `q` is the clipped and down-scaled pattern `preRound E M n` (`countUp_eq_preRound`): the input's pattern
  shifted down in the normal range, the float32-rounded quotient below it.  For E = 8 `q` is the input's own pattern.
-/
import USProofs.Properties.C13Sub
import USProofs.Properties.C13E8

open USModel USModel.F32

namespace USProofs.C14
open USProofs.C13

theorem countUp_eq_countUpCore {E M srbits n q : ℕ} (hs : srbits ≤ 23 - M)
    (h : ∀ off, off < 2 ^ (23 - M) →
      (quantMag E M off n != quantMag E M 0 n) = (roundCore (23 - M) off q != roundCore (23 - M) 0 q)) :
    countUp E M srbits n = countUpCore (23 - M) (23 - M - srbits) q := by
  unfold countUp countUpCore
  rw [Nat.sub_sub_self hs]
  refine List.countP_congr fun r hr => ?_
  rw [roundsUp, roundsUpCore, h _ (offSR_lt M srbits r hs (List.mem_range.mp hr)), offSR_eq]

theorem countUp_own (E M n srbits : ℕ) (hE : 1 ≤ E) (hB : 2 ^ (E - 1) ≤ 127) (hM : M ≤ 23)
    (hmax : n ≤ absmaxBits E M) (hnorm : 127 - 2 ^ (E - 1) < expo n) (hs : srbits ≤ 23 - M) :
    countUp E M srbits n = countUpCore (23 - M) (23 - M - srbits) n :=
  countUp_eq_countUpCore hs fun off hoff => by
    rw [quantMag_normal_core E M off n hE hB hM hoff hmax hnorm,
      quantMag_normal_core E M 0 n hE hB hM (Nat.two_pow_pos _) hmax hnorm]

/-- Exact probability, end to end: with all `23 - M` discarded bits used as random bits, the number of draws (out of
    `2^(23-M)`) for which `FPFormat.quantise` rounds the magnitude `n` away from zero is exactly the value of the
    discarded bits — the input's fractional position between its two neighbours, in units of `2^-(23-M)`. -/
theorem sr_exact_end_to_end (E M n : ℕ) (hE : 1 ≤ E) (hB : 2 ^ (E - 1) ≤ 127) (hM : M ≤ 23)
    (hmax : n ≤ absmaxBits E M) (hnorm : 127 - 2 ^ (E - 1) < expo n) :
    countUp E M (23 - M) n = n % 2 ^ (23 - M) := by
  rw [countUp_own E M n (23 - M) hE hB hM hmax hnorm (Nat.le_refl _), Nat.sub_self]
  exact sr_prob_exact (23 - M) n

theorem preRound_eq {E : ℕ} (M n : ℕ) (hB : 2 ^ (E - 1) ≤ 127) :
    preRound E M n = divPow2 (min n (absmaxBits E M)) (127 - 2 ^ (E - 1)) := by
  simp only [preRound, if_pos hB]

/-- On every magnitude, E ≤ 7: the count is the core's count on the pattern after clipping and down-scaling (the driver's
    `q`), because scaling back is exact and therefore injective. -/
theorem countUp_eq_preRound (E M n srbits : ℕ) (hB : 2 ^ (E - 1) ≤ 127) (hM : M ≤ 23) (hs : srbits ≤ 23 - M) :
    countUp E M srbits n = countUpCore (23 - M) (23 - M - srbits) (preRound E M n) :=
  countUp_eq_countUpCore hs fun off hoff => by
    rw [quantMag_is_core E M off n hB, quantMag_is_core E M 0 n hB, preRound_eq M n hB,
      mulPow2_ne_iff _ _ _ (round_no_overflow hB hM hoff n) (round_no_overflow hB hM (Nat.two_pow_pos _) n)]

theorem countUp_sub_eq_core (E M n srbits : ℕ) (hE : 1 ≤ E) (hB : 2 ^ (E - 1) ≤ 127) (hM : M ≤ 23)
    (hsub : expo n ≤ 127 - 2 ^ (E - 1)) (hs : srbits ≤ 23 - M) :
    countUp E M srbits n =
      countUpCore (23 - M) (23 - M - srbits) (rneShift (sigOf n) (shOf E n)) := by
  rw [countUp_eq_preRound E M n srbits hB hM hs, preRound_eq M n hB, Nat.min_eq_left (le_absmax_of_sub hM hsub),
    divPow2_sig hsub]

theorem countUp_E8_eq_core (M n srbits : ℕ) (hM : M ≤ 23) (h1 : 1 ≤ expo n) (h2 : expo n ≤ 252)
    (hs : srbits ≤ 23 - M) :
    countUp 8 M srbits n = countUpCore (23 - M) (23 - M - srbits) n :=
  countUp_eq_countUpCore hs fun off hoff => by
    rw [quantMag_E8_eq M off n hM hoff h1 h2, quantMag_E8_eq M 0 n hM (Nat.two_pow_pos _) h1 h2]

end USProofs.C14

namespace USProofs.C13

section normal
variable (E M n : ℕ) (hE : 1 ≤ E) (hB : 2 ^ (E - 1) ≤ 127) (hM : M ≤ 23)
  (hmax : n ≤ absmaxBits E M) (hnorm : 127 - 2 ^ (E - 1) < expo n)

include hE hB hM hmax hnorm

/-- On the down-shifted pattern, the one the driver's `preRound` computes (it has the same discarded bits as the input's
    own pattern, `countUp_own`, the shift being a multiple of the spacing). -/
theorem countUp_eq_core (srbits : ℕ) (hs : srbits ≤ 23 - M) :
    countUp E M srbits n = countUpCore (23 - M) (23 - M - srbits) (n - (127 - 2 ^ (E - 1)) * 2 ^ 23) := by
  rw [USProofs.C14.countUp_eq_preRound E M n srbits hB hM hs, USProofs.C14.preRound_eq M n hB, Nat.min_eq_left hmax,
    divPow2_high hnorm]

end normal

end USProofs.C13
