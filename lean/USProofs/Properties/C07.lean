/-
  C07 — the transformer residual scaling rule balances layer contributions at every depth.

  Model: `USModel.tauRule` / `tauSq` / `contribEmb` / `contribs` / `stackTauSqs` / `stackTaus`
  (`USModel/Core.lean`), mirroring `transformer_residual_scaling_rule._tau` and the wiring of
  `TransformerStack`.

  All statements are for every depth `L ≥ 1` (2L residual branches) and all real `r, ρ > 0`
  (the proofs use `L ≥ 1` only: `α_attn², α_mlp² ≥ 0` whatever the sign of `r`, `ρ`).

  The idea: a rule of the form `τⱼ² = wⱼ / Dⱼ` with `Dⱼ₊₁ = Dⱼ + wⱼ` makes `1 + τⱼ² = Dⱼ₊₁ / Dⱼ`, so
  the products in `contribEmb` / `contribs` telescope: after `n` branches the embedding contributes
  `D₀ / Dₙ` and branch `j` contributes `wⱼ / Dₙ`, for any `w`, `D`.  The rule of the library is the
  instance `w = a r ρ` (`α_attn²` or `α_mlp²`), `D = S r ρ L` (`D₀ = L`).

  The last part ties this bookkeeping to the residual stack of C06: with constant branches the
  stack's output is linear in its input and the branch outputs, and with the weights of `tau` the
  squares of the coefficients are `contribEmb` / `contribs` of the `τ²`.
-/
import USModel.Core
import USProofs.RealInst
import Mathlib.Tactic.Ring
import Mathlib.Tactic.Positivity
import USProofs.Properties.C06

open USModel

namespace USProofs.C07

theorem contribEmb_eq_prod (ts : List ℝ) : contribEmb ts = (ts.map fun t => 1 / (1 + t)).prod := by
  rw [contribEmb, List.prod_eq_foldl, List.foldl_map, Nat.cast_one]

theorem contribEmb_nil : contribEmb ([] : List ℝ) = 1 := Nat.cast_one

theorem contribEmb_cons (t : ℝ) (ts : List ℝ) :
    contribEmb (t :: ts) = 1 / (1 + t) * contribEmb ts := by
  simp only [contribEmb_eq_prod, List.map_cons, List.prod_cons]

theorem contrib_sum_one (ts : List ℝ) (h : ∀ t ∈ ts, 1 + t ≠ 0) :
    contribEmb ts + (contribs ts).sum = 1 := by
  induction ts with
  | nil => simp [contribs, contribEmb_nil]
  | cons t ts ih =>
    rw [contribs, List.sum_cons, contribEmb_cons, Nat.cast_one, ← add_assoc, ← add_mul, ← add_div,
      div_self (h t List.mem_cons_self), one_mul, ih fun u hu => h u (List.mem_cons_of_mem _ hu)]

section telescope
variable {D w : ℕ → ℝ} (hD : ∀ j, D j ≠ 0) (hw : ∀ j, D (j + 1) = D j + w j)
include hD hw

theorem one_add_div_step (j : ℕ) : 1 + w j / D j = D (j + 1) / D j := by
  rw [hw, add_div, div_self (hD j)]

theorem contribEmb_telescope (i n : ℕ) :
    contribEmb ((List.range' i n).map fun j => w j / D j) = D i / D (i + n) := by
  induction n generalizing i with
  | zero => exact contribEmb_nil.trans (div_self (hD i)).symm
  | succ n ih =>
    rw [List.range'_succ, List.map_cons, contribEmb_cons, ih, one_add_div_step hD hw, one_div_div,
      div_mul_div_cancel₀ (hD _), Nat.add_right_comm, Nat.add_assoc]

theorem contribs_telescope (i n : ℕ) :
    contribs ((List.range' i n).map fun j => w j / D j)
      = (List.range' i n).map fun j => w j / D (i + n) := by
  induction n generalizing i with
  | zero => rfl
  | succ n ih =>
    rw [List.range'_succ, List.map_cons, contribs, ih, contribEmb_telescope hD hw, Nat.cast_one,
      one_add_div_step hD hw, div_div_div_cancel_right₀ (hD i), div_mul_div_cancel₀ (hD _),
      Nat.add_right_comm, Nat.add_assoc, List.map_cons]

end telescope

/-- squared weight of branch `i`: attention (even) or MLP (odd) -/
noncomputable def a (r rho : ℝ) (i : ℕ) : ℝ :=
  if i % 2 = 0 then alphaAttnSq r rho else alphaMlpSq r rho

/-- running normaliser `S i = x + n_attn(i)·α_attn² + n_mlp(i)·α_mlp²` (`x = layers / 2`) -/
noncomputable def S (r rho x : ℝ) (i : ℕ) : ℝ :=
  x + (((i + 1) / 2 : ℕ) : ℝ) * alphaAttnSq r rho + ((i / 2 : ℕ) : ℝ) * alphaMlpSq r rho

theorem one_add_sq_pos (rho : ℝ) : 0 < 1 + rho * rho :=
  add_pos_of_pos_of_nonneg one_pos (mul_self_nonneg rho)

/-- `α_mlp` as `tauRule` computes it, with its square root, squares to `alphaMlpSq` -/
theorem alphaMlp_mul_self (r rho : ℝ) :
    r * √(2 / (1 + rho * rho)) * (r * √(2 / (1 + rho * rho))) = alphaMlpSq r rho := by
  have h : (0 : ℝ) ≤ 2 / (1 + rho * rho) := div_nonneg zero_le_two (one_add_sq_pos rho).le
  rw [alphaMlpSq, mul_mul_mul_comm, Real.mul_self_sqrt h, Nat.cast_ofNat, Nat.cast_one]

theorem alphaMlpSq_nonneg (r rho : ℝ) : 0 ≤ alphaMlpSq r rho :=
  alphaMlp_mul_self r rho ▸ mul_self_nonneg _

theorem alphaAttnSq_nonneg (r rho : ℝ) : 0 ≤ alphaAttnSq r rho :=
  mul_nonneg (mul_self_nonneg rho) (alphaMlpSq_nonneg r rho)

theorem alpha_sum {r rho : ℝ} : alphaAttnSq r rho + alphaMlpSq r rho = 2 * r ^ 2 := by
  rw [alphaAttnSq, ← add_one_mul, alphaMlpSq, Nat.cast_ofNat, Nat.cast_one, add_comm, mul_left_comm,
    mul_div_cancel₀ _ (one_add_sq_pos rho).ne', mul_comm, pow_two]

theorem le_S (r rho x : ℝ) (i : ℕ) : x ≤ S r rho x i := by
  rw [S, add_assoc]
  exact le_add_of_nonneg_right (add_nonneg
    (mul_nonneg (Nat.cast_nonneg _) (alphaAttnSq_nonneg r rho))
    (mul_nonneg (Nat.cast_nonneg _) (alphaMlpSq_nonneg r rho)))

theorem S_pos {r rho x : ℝ} (hx : 0 < x) (i : ℕ) : 0 < S r rho x i :=
  hx.trans_le (le_S r rho x i)

theorem tauSq_eq_div (r rho : ℝ) (i n : ℕ) : tauSq r rho i n = a r rho i / S r rho (n / 2) i := by
  rw [tauSq, a, S, Nat.cast_ofNat]

theorem S_succ (r rho x : ℝ) (i : ℕ) : S r rho x (i + 1) = S r rho x i + a r rho i := by
  unfold S a
  rw [show (i + 1 + 1) / 2 = i / 2 + 1 from Nat.add_div_right i two_pos]
  split <;> rename_i h
  · rw [Nat.succ_div_of_mod_ne_zero (by rw [Nat.succ_mod_two_eq_one_iff.mpr h]; exact one_ne_zero),
      Nat.cast_succ]
    ring
  · rw [Nat.succ_div_of_mod_eq_zero (Nat.succ_mod_two_eq_zero_iff.mpr (Nat.mod_two_ne_zero.mp h)),
      Nat.cast_succ]
    ring

theorem S_zero (r rho x : ℝ) : S r rho x 0 = x := by
  simp [S]

theorem S_top (r rho : ℝ) (L : ℕ) : S r rho L (2 * L) = L * (1 + 2 * r ^ 2) := by
  rw [S, show (2 * L + 1) / 2 = L from Nat.mul_add_div two_pos L 1, Nat.mul_div_cancel_left L two_pos,
    ← alpha_sum]
  ring

theorem stackTauSqs_eq (r rho : ℝ) (L : ℕ) :
    stackTauSqs r rho L = (List.range' 0 (2 * L)).map fun j => a r rho j / S r rho L j := by
  simp only [stackTauSqs, tauSq_eq_div, List.range_eq_range', Nat.cast_mul, Nat.cast_ofNat,
    mul_div_cancel_left₀ (L : ℝ) two_ne_zero]

section stack
variable {r rho : ℝ} {L : ℕ} (hL : 1 ≤ L)
include hL

theorem emb_contribution : contribEmb (stackTauSqs r rho L) = 1 / (1 + 2 * r ^ 2) := by
  have hL' : (0 : ℝ) < L := Nat.cast_pos.mpr hL
  rw [stackTauSqs_eq, contribEmb_telescope (fun j => (S_pos hL' j).ne') (S_succ r rho L),
    Nat.zero_add, S_top, S_zero, div_mul_cancel_left₀ hL'.ne', one_div]

theorem layer_contributions :
    contribs (stackTauSqs r rho L)
      = (List.range (2 * L)).map fun j => a r rho j / (L * (1 + 2 * r ^ 2)) := by
  rw [stackTauSqs_eq, contribs_telescope (fun j => (S_pos (Nat.cast_pos.mpr hL) j).ne')
    (S_succ r rho L), Nat.zero_add, S_top, List.range_eq_range']

theorem contribs_getElem? {i : ℕ} (hi : i < 2 * L) :
    (contribs (stackTauSqs r rho L))[i]? = some (a r rho i / (L * (1 + 2 * r ^ 2))) := by
  rw [layer_contributions hL, List.getElem?_map, List.getElem?_range hi, Option.map_some]

theorem contributions_sum_one :
    contribEmb (stackTauSqs r rho L) + (contribs (stackTauSqs r rho L)).sum = 1 := by
  have hS : ∀ j, S r rho L j ≠ 0 := fun j => (S_pos (Nat.cast_pos.mpr hL) j).ne'
  refine contrib_sum_one _ fun t ht => ?_
  rw [stackTauSqs_eq] at ht
  obtain ⟨i, -, rfl⟩ := List.mem_map.mp ht
  -- `1 + τᵢ² = Sᵢ₊₁ / Sᵢ`
  rw [one_add_div_step hS (S_succ r rho L)]
  exact div_ne_zero (hS _) (hS i)

end stack

/-- All attention layers contribute equally, and all MLP layers contribute equally. -/
theorem equal_within_kind {r rho : ℝ} (hr : 0 < r) (hrho : 0 < rho) {L : ℕ} (hL : 1 ≤ L)
    (i j : ℕ) (hi : i < 2 * L) (hj : j < 2 * L) (hpar : i % 2 = j % 2) :
    (contribs (stackTauSqs r rho L))[i]? = (contribs (stackTauSqs r rho L))[j]? := by
  rw [contribs_getElem? hL hi, contribs_getElem? hL hj, a, a, hpar]

/-- The attention : MLP contribution ratio is the requested ratio (`ρ²` on squares). -/
theorem attn_mlp_ratio {r rho : ℝ} (hr : 0 < r) (hrho : 0 < rho) {L : ℕ} (hL : 1 ≤ L)
    (i j : ℕ) (hi : i < 2 * L) (hj : j < 2 * L) (hie : i % 2 = 0) (hjo : j % 2 = 1)
    (ci cj : ℝ) (hci : (contribs (stackTauSqs r rho L))[i]? = some ci)
    (hcj : (contribs (stackTauSqs r rho L))[j]? = some cj) :
    ci = rho ^ 2 * cj := by
  rw [contribs_getElem? hL hi, a, if_pos hie, Option.some.injEq] at hci
  rw [contribs_getElem? hL hj, a, if_neg (by rw [hjo]; exact one_ne_zero),
    Option.some.injEq] at hcj
  rw [← hci, ← hcj, alphaAttnSq, mul_div_assoc, ← pow_two]

/-- The mean layer contribution relative to the embedding is the requested multiplier:
    `((Σ attention c) + (Σ MLP c)) / 2 ÷ c_emb = r²` (the quantity the test suite calls
    `(s_attn_mlp_average / s_embedding)²`). -/
theorem mean_contribution_rel_embedding {r rho : ℝ} (hr : 0 < r) (hrho : 0 < rho) {L : ℕ}
    (hL : 1 ≤ L) :
    (contribs (stackTauSqs r rho L)).sum / 2 / contribEmb (stackTauSqs r rho L) = r ^ 2 := by
  -- the sum is `1 − c_emb` and `c_emb = 1/(1 + 2r²)`, so the ratio is `(1/c_emb − 1)/2 = r²`
  rw [eq_sub_of_add_eq' (contributions_sum_one hL), emb_contribution hL, div_right_comm, sub_div, one_div_one_div,
    div_self (one_div_ne_zero (by positivity)), add_sub_cancel_left, mul_div_cancel_left₀ _ two_ne_zero]

/-- The model's `tau` (with square roots, the one that is run at `Float`) squares to `tauSq`
    (the one that is run at `Rat`). -/
theorem tau_sq_eq {r rho : ℝ} (hr : 0 < r) (hrho : 0 < rho) (index layers : ℕ) :
    (tauRule r rho index layers) ^ 2 = tauSq r rho index layers := by
  have hM := alphaMlp_mul_self r rho
  have hn : (0 : ℝ) ≤ layers / 2 := div_nonneg (Nat.cast_nonneg layers) zero_le_two
  have hS : 0 ≤ S r rho (layers / 2) index := hn.trans (le_S ..)
  rw [tauSq_eq_div, a]
  simp only [tauRule, powHalf_real, nat_real, Nat.cast_ofNat, Nat.cast_one]
  generalize r * √(2 / (1 + rho * rho)) = m at hM ⊢
  have hA : rho * m * (rho * m) = alphaAttnSq r rho := by rw [alphaAttnSq, ← hM, mul_mul_mul_comm]
  -- after the `simp` the denominator under the root is the body of `S`, literally: fold it
  rw [hA, hM, ← S, sq_div_sqrt _ hS, apply_ite (· ^ 2), pow_two, pow_two, hM, hA]

/-- `TransformerStack(layers = L)` gives layer `k` the taus of branches `2k` and `2k+1` of `2L`. -/
theorem stack_wiring (r rho : ℝ) (L k : ℕ) (hk : k < L) :
    (stackTaus r rho L)[k]? =
      some (tauRule r rho (2 * k) (2 * L), tauRule r rho (2 * k + 1) (2 * L)) := by
  simp [stackTaus, hk]

-- the hypotheses at `r = 1/2`, `ρ = 3`, `L = 4`
example : (0 : ℝ) < 1 / 2 ∧ (0 : ℝ) < 3 ∧ 1 ≤ 4 := by norm_num

/-- a branch whose output does not depend on its input (a fresh, independent contribution `b`) -/
def constBranch (b : ℝ) : DOp ℝ ℝ := ⟨fun _ => b, fun _ _ => 0⟩

/-- coefficient of the stack's input, and of each branch output, in the output of a sequential
    residual stack with weights `(wrᵢ, wsᵢ)` -/
def embCoeff : List (ℝ × ℝ) → ℝ
  | [] => 1
  | (_, ws) :: rest => ws * embCoeff rest
def branchCoeffs : List (ℝ × ℝ) → List ℝ
  | [] => []
  | (wr, _) :: rest => (wr * embCoeff rest) :: branchCoeffs rest

theorem stack_unroll (layers : List (ℝ × ℝ × ℝ)) (x : ℝ) :
    (residualStack (layers.map fun l => (l.1, l.2.1, constBranch l.2.2))).fwd x
      = embCoeff (layers.map fun l => (l.1, l.2.1)) * x
        + ((branchCoeffs (layers.map fun l => (l.1, l.2.1))).zip (layers.map fun l => l.2.2)).foldr
            (fun p acc => p.1 * p.2 + acc) 0 := by
  induction layers generalizing x with
  | nil => exact ((add_zero _).trans (one_mul x)).symm
  | cons l rest ih =>
    rw [List.map_cons, C06.stack_cons_fwd, ih]
    simp only [List.map_cons, embCoeff, branchCoeffs, List.zip_cons_cons, List.foldr_cons,
      constBranch, smul_eq_mul]
    ring

theorem one_add_sq_nonneg (t : ℝ) : 0 ≤ 1 + t ^ 2 := pow_two t ▸ (one_add_sq_pos t).le

/-- with the weights of `tau`: `wr = τ/d`, `ws = 1/d`, `d = √(1+τ²)` -/
theorem embCoeff_sq (taus : List ℝ) :
    (embCoeff (taus.map fun t => (t / Real.sqrt (1 + t ^ 2), 1 / Real.sqrt (1 + t ^ 2)))) ^ 2
      = contribEmb (taus.map fun t => t ^ 2) := by
  induction taus with
  | nil => exact (one_pow 2).trans contribEmb_nil.symm
  | cons t rest ih =>
    rw [List.map_cons, List.map_cons, embCoeff, mul_pow, ih, sq_div_sqrt _ (one_add_sq_nonneg t),
      one_pow, contribEmb_cons]

theorem branchCoeffs_sq (taus : List ℝ) :
    (branchCoeffs (taus.map fun t => (t / Real.sqrt (1 + t ^ 2), 1 / Real.sqrt (1 + t ^ 2)))).map (· ^ 2)
      = contribs (taus.map fun t => t ^ 2) := by
  induction taus with
  | nil => rfl
  | cons t rest ih =>
    rw [List.map_cons, List.map_cons, branchCoeffs, List.map_cons, ih, mul_pow, embCoeff_sq,
      sq_div_sqrt _ (one_add_sq_nonneg t), contribs, Nat.cast_one]

end USProofs.C07
