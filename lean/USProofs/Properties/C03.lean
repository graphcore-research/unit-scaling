/-
  C03 — exact unit scale of (bi)linear ops at initialisation.

  For each op and role, `scale² × terms = 1` for all shapes, where `terms`
  (`USModel/Terms.lean`) is the number of independent unit-variance products summed into an
  element of that tensor by the reference op (validated against PyTorch on all-ones tensors by
  the harness).  `second_moment` turns this into "expected mean square = 1" under the
  independence hypothesis `E(tᵢ tⱼ) = δᵢⱼ`.
-/
import USModel.Terms
import USProofs.RealInst
import USProofs.Properties.C05
import Mathlib.Algebra.Algebra.Basic
import Mathlib.Algebra.BigOperators.Ring.Finset

open USModel

namespace USProofs.C03

-- a term count of `USModel/Terms.lean`, (numerator, denominator), as a real
noncomputable def tval (p : ℕ × ℕ) : ℝ := (p.1 : ℝ) / (p.2 : ℝ)

-- every scale is the reciprocal square root of its term count
def UnitScaled (s : OpScales ℝ) (t : Terms) : Prop :=
  s.fwd ^ 2 * tval t.out = 1 ∧ List.Forall₂ (fun b c => b ^ 2 * tval c = 1) s.bwd t.grads

theorem unitScaled_intro {f : ℝ} {bs : List ℝ} {tf : ℕ × ℕ} {ts : List (ℕ × ℕ)}
    (h0 : f ^ 2 * tval tf = 1) (hs : List.Forall₂ (fun b c => b ^ 2 * tval c = 1) bs ts) :
    UnitScaled ⟨f, bs⟩ ⟨tf, ts⟩ :=
  ⟨h0, hs⟩

/-! `sq_inv_sqrt_mul` / `sq_sqrt_mul_inv` in the form the term counts take (`real_model` normal form
    of the scales): -/

theorem unit_one : (1 : ℝ) ^ 2 * tval (1, 1) = 1 := by
  simp only [tval, Nat.cast_one, one_pow, div_one, mul_one]

theorem unit_inv_sqrt {n : ℕ} (hn : 0 < n) : (1 / √(n : ℝ)) ^ 2 * tval (n, 1) = 1 := by
  rw [tval, Nat.cast_one, div_one, sq_inv_sqrt_mul (Nat.cast_pos.2 hn)]

theorem unit_sqrt_div {a b : ℕ} (ha : 0 < a) (hb : 0 < b) :
    √((a : ℝ) / b) ^ 2 * tval (b, a) = 1 := by
  have h := sq_sqrt_mul_inv (div_pos (Nat.cast_pos.2 ha) (Nat.cast_pos.2 hb) : (0 : ℝ) < a / b)
  rw [one_div_div] at h
  exact h

theorem linear_unit_scale (fo fi : ℕ) (lead : List ℕ) (hfo : 0 < fo) (hfi : 0 < fi)
    (hl : 0 < prodNat lead) :
    ∃ s, linearScales (α := ℝ) fo fi (prodNat lead * fi) half half half none = .ok s ∧
      UnitScaled s (linearTerms fo fi lead) := by
  refine ⟨_, C05.linear_unconstrained .., ?_⟩
  rw [Nat.mul_div_cancel _ hfi]
  simp only [real_model]
  exact unitScaled_intro (unit_inv_sqrt hfi)
    (.cons (unit_inv_sqrt hfo) (.cons (unit_inv_sqrt hl) (.cons (unit_inv_sqrt hl) .nil)))

/-- `linear_readout` deliberately uses `1/fan_in` for its output. -/
theorem readout_fan_in (fo fi numel : ℕ) :
    ∃ g w b, linearReadoutScales (α := ℝ) fo fi numel none = .ok ⟨1 / (fi : ℝ), [g, w, b]⟩ := by
  rw [linearReadoutScales, C05.linear_unconstrained, nat_real, Nat.cast_one, Real.rpow_one]
  exact ⟨_, _, _, rfl⟩

theorem matmul_unit_scale (ls inner rs : ℕ) (h1 : 0 < ls) (h2 : 0 < inner) (h3 : 0 < rs) :
    ∃ s, matmulScales (α := ℝ) ls inner rs none = .ok s ∧ UnitScaled s (matmulTerms ls inner rs) := by
  refine ⟨_, C05.matmul_unconstrained .., ?_⟩
  simp only [real_model]
  exact unitScaled_intro (unit_inv_sqrt h2) (.cons (unit_inv_sqrt h3) (.cons (unit_inv_sqrt h1) .nil))

theorem conv1d_unit_scale (fo fi k seq lead stride pad dil groups : ℕ) (hfo : 0 < fo) (hfi : 0 < fi)
    (hk : 0 < k) (hs : 0 < stride) (hg : 0 < groups)
    (hb : 0 < (convOutSize seq k stride pad dil).toNat * lead) :
    ∃ s, conv1dScales (α := ℝ) fo fi k seq lead stride pad dil groups half half half none = .ok s ∧
      UnitScaled s (conv1dTerms fo fi k (convOutSize seq k stride pad dil).toNat lead stride groups) := by
  refine ⟨_, C05.conv1d_unconstrained .., ?_⟩
  rw [conv1dTerms, Nat.mul_comm k fo]
  simp only [real_model]
  exact unitScaled_intro (unit_inv_sqrt (Nat.mul_pos hfi hk))
    (.cons (unit_sqrt_div (Nat.mul_pos hs hg) (Nat.mul_pos hfo hk))
      (.cons (unit_inv_sqrt hb) (.cons (unit_inv_sqrt hb) .nil)))

theorem add_unit_scale (a b out : List ℕ) (hb : broadcastShapes a b = some out)
    (ha1 : prodNat a ≠ 1) (hb1 : prodNat b ≠ 1)
    (hca : 0 < prodNat out / prodNat a) (hcb : 0 < prodNat out / prodNat b) :
    ∃ s, addScales (α := ℝ) a b none = .ok s ∧ UnitScaled s (addTerms a b out) := by
  refine ⟨_, C05.add_unconstrained hb ha1 hb1, ?_⟩
  simp only [real_model]
  exact unitScaled_intro (unit_inv_sqrt two_pos) (.cons (unit_inv_sqrt hca) (.cons (unit_inv_sqrt hcb) .nil))

theorem embedding_unit_scale (vocab batch : ℕ) (hv : 0 < vocab) (hb : 0 < batch) :
    UnitScaled (embeddingScales (α := ℝ) vocab batch) (embeddingTerms vocab batch) := by
  simp only [embeddingScales, real_model]
  exact unitScaled_intro unit_one (.cons (unit_sqrt_div hv hb) .nil)

/-- dropout (training): a kept element is `x/(1−p)` with probability `1−p`, second moment
    `1/(1−p)`; scale² = `1−p`. -/
theorem dropout_unit_scale (p : ℝ) (hp : p < 1) :
    (dropoutScales p).fwd ^ 2 * (1 / (1 - p)) = 1 ∧ (dropoutScales p).bwd = [(dropoutScales p).fwd] := by
  have h : (0 : ℝ) < 1 - p := sub_pos.2 hp
  refine ⟨?_, rfl⟩
  simp only [dropoutScales, real_model]
  exact sq_sqrt_mul_inv h

/-- eval mode: `√(1−p)·x` is the expectation of the training output `√(1−p)·mask·x/(1−p)`. -/
theorem dropout_eval_is_mean (p x : ℝ) (hp : p < 1) :
    (1 - p) * (x / (1 - p)) + p * 0 = x := by
  rw [mul_zero, add_zero, mul_div_cancel₀ _ (sub_pos.2 hp).ne']

theorem mse_unit_scale (n : ℕ) : UnitScaled (mseScales (α := ℝ) n false) mseTerms := by
  have h8 := unit_inv_sqrt (n := 8) (by decide)
  simp only [mseScales, real_model, Bool.false_eq_true, if_false]
  exact unitScaled_intro unit_one (.cons h8 (.cons h8 .nil))

/-- layer_norm / rms_norm: one term per normalised row for gain and bias gradients. -/
theorem norm_unit_scale (normNumel rows : ℕ) (hn : 0 < normNumel) (hr : 0 < rows) :
    UnitScaled (normScales (α := ℝ) normNumel (rows * normNumel)) (normTerms normNumel (rows * normNumel)) := by
  have h1 : (0 : ℝ) < normNumel := Nat.cast_pos.2 hn
  have h2 : (0 : ℝ) < rows := Nat.cast_pos.2 hr
  have hs : √((normNumel : ℝ) / ((rows * normNumel : ℕ) : ℝ)) ^ 2 * tval (rows, 1) = 1 := by
    rw [Nat.cast_mul, Real.sq_sqrt (div_pos h1 (mul_pos h2 h1)).le, tval, Nat.cast_one, div_one,
      div_mul_eq_mul_div, mul_comm, div_self (mul_pos h2 h1).ne']
  rw [normTerms, Nat.mul_div_cancel _ hn]
  simp only [normScales, real_model]
  exact unitScaled_intro unit_one (.cons unit_one (.cons hs (.cons hs .nil)))

/-- `E` any linear functional on a commutative ℝ-algebra ("expectation"), `t` terms with
    `E(tᵢ tⱼ) = δᵢⱼ` (independent, zero mean, unit variance). -/
theorem second_moment {R ι : Type} [CommRing R] [Algebra ℝ R] [DecidableEq ι] (E : R →ₗ[ℝ] ℝ)
    (s : Finset ι) (t : ι → R)
    (h : ∀ i ∈ s, ∀ j ∈ s, E (t i * t j) = if i = j then 1 else 0) (c : ℝ) :
    E ((c • ∑ i ∈ s, t i) * (c • ∑ i ∈ s, t i)) = c ^ 2 * s.card := by
  have h1 : ∀ i ∈ s, E (∑ j ∈ s, t i * t j) = 1 := fun i hi => by
    rw [map_sum, Finset.sum_congr rfl (h i hi), Finset.sum_ite_eq, if_pos hi]
  rw [smul_mul_smul_comm, map_smul, Finset.sum_mul_sum, map_sum, Finset.sum_congr rfl h1,
    Finset.sum_const, nsmul_one, smul_eq_mul, pow_two]

theorem unit_second_moment {R ι : Type} [CommRing R] [Algebra ℝ R] [DecidableEq ι] (E : R →ₗ[ℝ] ℝ)
    (s : Finset ι) (t : ι → R)
    (h : ∀ i ∈ s, ∀ j ∈ s, E (t i * t j) = if i = j then 1 else 0) (c : ℝ)
    (hc : c ^ 2 * s.card = 1) :
    E ((c • ∑ i ∈ s, t i) * (c • ∑ i ∈ s, t i)) = 1 := by
  rw [second_moment E s t h c, hc]

example : ∃ s, linearScales (α := ℝ) 7 3 (prodNat [5, 2] * 3) half half half none = .ok s ∧
    UnitScaled s (linearTerms 7 3 [5, 2]) := linear_unit_scale 7 3 [5, 2] (by decide) (by decide) (by decide)

end USProofs.C03
