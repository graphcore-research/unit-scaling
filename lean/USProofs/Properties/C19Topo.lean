/-
  C19 — the pruning helpers return a well-formed graph, for every well-formed input graph: no surviving node
  refers to a removed node or to a later node, ids stay distinct.  What one `_prune` step and a whole sweep need is
  that the replacement is always an input of the node removed; the three helpers' decision rules see to that.
-/
import USModel.Prune
import USProofs.Properties.C19
import USProofs.Properties.C16Order

open USModel
open USProofs.C16 (TopoL TopoFrom ids IGraph.get?_mem topoL_iff_topoFrom topoL_ofGraph)

namespace USProofs.C19

/-- `_prune` along the list.  Surviving nodes are defined as before; where a node used the removed one (so the
    removed one is already `seen`) it now uses the replacement, which was an input of the removed node and so is
    `seen'` by then. -/
theorem topoFrom_pruneNode {seen seen' : List Nat} {g : IGraph} (id : Nat) (replacement : Option Nat)
    (hs : ∀ a ∈ seen, a ≠ id → a ∈ seen') (hnew : ∀ x ∈ g, x.id ∈ seen' → x.id ∈ seen)
    (hr : ∀ r, replacement = some r → r ∈ seen' ∨ ∃ n ∈ g, n.id = id ∧ r ∈ n.n.inputs) (h : TopoFrom seen g) :
    TopoFrom seen' (pruneNode g id replacement) := by
  induction g generalizing seen seen' with
  | nil => trivial
  | cons x g ih =>
    obtain ⟨⟨hx, hin⟩, hg⟩ := h
    simp only [List.mem_cons, forall_eq_or_imp, exists_eq_or_imp] at hnew hr
    rw [pruneNode_eq, List.filter_cons]
    by_cases hid : x.id = id
    · -- the removed node: from here on the replacement is defined
      rw [if_neg (by simpa using hid)]
      refine ih (fun a ha hne => ?seen) (fun y hy hc => List.mem_cons_of_mem _ (hnew.2 y hy hc)) (fun r e => ?repl) hg
      case seen => exact hs a ((List.mem_cons.mp ha).resolve_left (hid ▸ hne)) hne
      case repl =>
        rcases hr r e with h | ⟨-, h⟩ | h
        · exact Or.inl h
        · -- `r` is an input of the removed node `x`: it was `seen`, and it is not `x` itself
          have hrx : r ≠ id := fun e => hx (hid ▸ e ▸ hin r h)
          exact Or.inl (hs r (hin r h) hrx)
        · exact Or.inr h
    · -- a surviving node, rewired
      rw [if_pos (by simpa using hid), List.map_cons]
      refine ⟨⟨fun hc => hx (hnew.1 hc), fun c hc => ?inputs⟩,
        ih (fun a ha hne => ?seen) (fun y hy hc => ?new) (fun r e => ?repl) hg⟩
      case inputs =>
        obtain ⟨i, hi, hci⟩ := (rewired_inputs id replacement x c).mp hc
        rcases mem_subst_refs.mp hci with ⟨hne, rfl⟩ | ⟨rfl, e⟩
        · exact hs c (hin c hi) hne  -- an input `x` had before
        · -- `x` used the removed node, which is therefore `seen` and not still to come, and uses the replacement `c` instead
          rcases hr c e with h | ⟨e, -⟩ | ⟨n, hn, e, -⟩
          · exact h
          · exact absurd e hid
          · exact absurd (e ▸ hin i hi) fun hc => hg.nodup.2 n hn (List.mem_cons_of_mem _ hc)
      case seen => exact List.mem_cons.mpr ((List.mem_cons.mp ha).imp_right fun ha => hs a ha hne)
      case new => exact List.mem_cons.mpr ((List.mem_cons.mp hc).imp_right (hnew.2 y hy))
      case repl =>
        rcases hr r e with h | ⟨e, -⟩ | h
        · exact Or.inl (List.mem_cons_of_mem _ h)
        · exact absurd e hid
        · exact Or.inr h

theorem topoL_pruneNode (g : IGraph) (id : Nat) (replacement : Option Nat) (h : TopoL g)
    (hr : ∀ r, replacement = some r → ∃ n ∈ g, n.id = id ∧ r ∈ n.n.inputs) :
    TopoL (pruneNode g id replacement) :=
  topoL_iff_topoFrom.mpr (topoFrom_pruneNode id replacement (fun _ h => (List.not_mem_nil h).elim) (fun _ _ h => h)
    (fun r e => Or.inr (hr r e)) (topoL_iff_topoFrom.mp h))

theorem topoL_pruneSweep (decide : IGraph → INode → Option (Option Nat))
    (hdec : ∀ g x r, decide g x = some (some r) → r ∈ x.n.inputs) (g0 : IGraph) (h : TopoL g0) :
    TopoL (pruneSweep decide g0) :=
  pruneSweep_induction decide g0 h fun g id x r hg hget hd =>
    have ⟨hx, hid⟩ := IGraph.get?_mem hget
    topoL_pruneNode g id r hg fun r' hr' => ⟨x, hx, hid, hdec g x r' (hr' ▸ hd)⟩

theorem floatInputs_single {g : IGraph} {x : INode} {a : Nat} (h : floatInputs g x = [a]) : a ∈ x.n.inputs :=
  (List.mem_filter.mp (h ▸ List.mem_singleton_self a : a ∈ floatInputs g x)).1

/-- `prune_non_float_tensors` returns a well-formed graph: here as `TopoL` of the id-graph, as `Graph.wellFormed` of the
    renumbered graph in `pruning_returns_wellformed` -/
theorem pruneNonFloat_wellformed (g : Graph) (hw : g.wellFormed = true) : TopoL (pruneNonFloatI g) := by
  unfold pruneNonFloatI
  apply topoL_pruneSweep _ _ _ (topoL_ofGraph g hw)
  intro g' x r hd
  rw [Option.ite_none_left_eq_some, Option.ite_none_right_eq_some] at hd
  obtain ⟨-, -, hd⟩ := hd
  split at hd
  next a hfi =>
    exact Option.some.inj (Option.some.inj hd) ▸ floatInputs_single hfi
  · cases hd

/-- `prune_same_scale_tensors` returns a well-formed graph (as `TopoL`) -/
theorem pruneSameScale_wellformed (rtol : Float) (g : Graph) (hw : g.wellFormed = true) : TopoL (pruneSameScaleI rtol g) := by
  unfold pruneSameScaleI
  apply topoL_pruneSweep _ _ _ (topoL_ofGraph g hw)
  intro g' x r hd
  rw [Option.ite_none_left_eq_some] at hd
  obtain ⟨-, hd⟩ := hd
  split at hd
  next a hfi =>
    split at hd
    · rw [Option.ite_none_right_eq_some] at hd
      exact Option.some.inj (Option.some.inj hd.2) ▸ floatInputs_single hfi
    · cases hd
  · cases hd

/-- `prune_selected_nodes` returns a well-formed graph (as `TopoL`; edges are cut, never re-pointed) -/
theorem pruneSelected_wellformed (targets : List String) (g : Graph) (hw : g.wellFormed = true) :
    TopoL (pruneSelectedI targets g) := by
  unfold pruneSelectedI
  apply topoL_pruneSweep _ _ _ (topoL_ofGraph g hw)
  intro g' x r hd
  split at hd <;> cases hd

-- the premise of the three theorems above can be met
example : Graph.wellFormed demo = true := by decide +kernel

theorem findIdx?_lt {g : IGraph} {k i : Nat} (hi : i ∈ ids (g.take k)) : (g.findIdx? (·.id == i)).getD 0 < k := by
  obtain ⟨y, hy, rfl⟩ := List.mem_map.mp hi
  have hex : ∃ x ∈ g.take k, (x.id == y.id) = true := ⟨y, hy, beq_self_eq_true _⟩
  have hlt := List.findIdx_lt_length_of_exists hex
  rw [List.findIdx?_eq_some_of_exists (hex.imp fun x hx => ⟨List.mem_of_mem_take hx.1, hx.2⟩), Option.getD_some]
  conv_lhs => rw [← List.take_append_drop k g, List.findIdx_append, if_pos hlt]
  exact Nat.lt_of_lt_of_le hlt (List.length_take_le k g)

/-- back to positional graphs: renumbering a topologically ordered id-graph by position gives a well-formed graph -/
theorem toGraph_wellFormed (g : IGraph) (h : TopoL g) : Graph.wellFormed (IGraph.toGraph g) = true := by
  have ht := USProofs.C16.topoFrom_iff.mp (topoL_iff_topoFrom.mp h)
  rw [USProofs.C16.wellFormed_iff]
  intro n' k hk c hc
  rw [IGraph.toGraph, List.getElem?_map, Option.map_eq_some_iff] at hk
  obtain ⟨x, hxk, rfl⟩ := hk
  obtain ⟨hlt, rfl⟩ := List.getElem?_eq_some_iff.mp hxk
  -- `c` is the position of an input `i` of the node at `k`, and `i` is the id of one of the first `k` nodes
  obtain ⟨i, hi, hci⟩ := (inputs_mapRefs _ g[k].n c).mp hc
  obtain rfl := List.mem_singleton.mp hci
  have e : g = g.take k ++ g[k] :: g.drop (k + 1) := by rw [← List.drop_eq_getElem_cons hlt, List.take_append_drop]
  exact findIdx?_lt (((ht _ _ _ e).1.2 i hi).resolve_left List.not_mem_nil)

/-- `prune_non_float_tensors`, `prune_same_scale_tensors`, `prune_selected_nodes` return a well-formed graph — for
    every well-formed input graph, tolerance and target set -/
theorem pruning_returns_wellformed (g : Graph) (hw : g.wellFormed = true) (rtol : Float) (targets : List String) :
    Graph.wellFormed (pruneNonFloat g) = true ∧ Graph.wellFormed (pruneSameScale rtol g) = true ∧
    Graph.wellFormed (pruneSelected targets g) = true :=
  ⟨toGraph_wellFormed _ (pruneNonFloat_wellformed g hw), toGraph_wellFormed _ (pruneSameScale_wellformed rtol g hw),
   toGraph_wellFormed _ (pruneSelected_wellformed targets g hw)⟩

end USProofs.C19
