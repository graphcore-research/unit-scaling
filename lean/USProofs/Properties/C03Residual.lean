/-
  C03 — residual add: the two mixing weights of `tau` are normalised, `wr² + ws² = 1`.  C06 and C07 build on this
  and need nothing else of C03 or C05.
-/
import USProofs.RealInst

open USModel

namespace USProofs.C03

theorem residualWeights_eq (tau : ℝ) :
    residualWeights tau = (tau / √(1 + tau * tau), 1 / √(1 + tau * tau)) := by
  simp only [residualWeights, real_model]

/-- residual add: two unit-variance terms, one per mixing weight -/
theorem residual_unit_scale (tau : ℝ) :
    (residualWeights tau).1 ^ 2 * 1 + (residualWeights tau).2 ^ 2 * 1 = 1 := by
  have hd : (0 : ℝ) < 1 + tau * tau := add_pos_of_pos_of_nonneg one_pos (mul_self_nonneg tau)
  rw [residualWeights_eq, mul_one, mul_one, div_pow, div_pow, Real.sq_sqrt hd.le, ← add_div, one_pow,
    add_comm, pow_two, div_self hd.ne']

end USProofs.C03
