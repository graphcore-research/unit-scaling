/-
  C16 — `unit_scaling_backend` returns a well-formed graph for every well-formed input graph: after all passes and
  the renumbering by position, every reference points to a strictly earlier node.  This is the graph-level content
  of "unit_scale(module) runs without error on any module": the rewritten graph passes `graph.lint()` and executes
  in order.
-/
import USModel.UnitScale
import USProofs.Properties.C16Topo
import USProofs.Properties.C19Topo

open USModel

namespace USProofs.C16

theorem topoL_unconstrainPass (uct : List String) (g : IGraph) (h : TopoL g) : TopoL (unconstrainPass uct g) := by
  unfold unconstrainPass
  refine topoL_map _ (fun x => ?keeps_id) (fun x _ a ha => ?no_new_input) h
  case keeps_id => split <;> rfl
  case no_new_input =>
    split at ha
    · exact setKw_lit_inputs x.n x.n.target "constraint" "None" a ha
    · exact ha

theorem backend_wellformed (user : List (String × String)) (uct : List String) (g0 : Graph) (hw : g0.wellFormed = true) :
    Graph.wellFormed (unitScaleBackend user uct g0) = true := by
  unfold unitScaleBackend
  exact USProofs.C19.toGraph_wellFormed _ (topoL_unconstrainPass uct _ (topoL_iff_topo.mpr (rewritten_topo user g0 hw)))

example : Graph.wellFormed (unitScaleBackend [] [] demo) = true := by
  rw [demo_backend]
  decide +kernel

end USProofs.C16
