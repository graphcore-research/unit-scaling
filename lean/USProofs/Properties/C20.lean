/-
  C20 — eager and `torch.compile` execution of scaled ops agree (fx: forward values)  (PARTIAL).

  Modelled: the library-side logic of `_ScaledGrad` under the different tracers.  TorchDynamo, AOT
  autograd and Inductor are PyTorch's runtime and are not modelled: agreement with them is checked
  differentially by the harness.
-/
import USModel.Autograd

open USModel

namespace USProofs.C20

variable {V : Type} [SMul Float V]

theorem fx_forward_agrees (round : Float → Float) (fwd bwd : Float) (x : V) :
    (fxTracedScale fwd : DOp V V).fwd x = (eagerScale round fwd bwd : DOp V V).fwd x := rfl

/-- backward-only factors are not representable in a plain fx graph (why the library's analyser keeps scaled ops as
    leaf calls) -/
theorem fx_backward_is_fwd_scale (fwd : Float) (x g : V) :
    (fxTracedScale fwd : DOp V V).vjp x g = fwd • g := rfl

theorem fx_backward_agrees_iff (round : Float → Float) (fwd bwd : Float) (x g : V)
    (h : round bwd = fwd) :
    (fxTracedScale fwd : DOp V V).vjp x g = (eagerScale round fwd bwd : DOp V V).vjp x g :=
  congrArg (· • g) h.symm

/-- in eager mode the saved scale is rounded to the input dtype (`round`: identity for float64, bfloat16 rounding for
    bfloat16 inputs) -/
theorem saved_scale_dtype (round : Float → Float) (fwd bwd : Float) (x g : V) :
    (eagerScale round fwd bwd : DOp V V).vjp x g = round bwd • g := rfl

/-- `scale_fwd` / `scale_bwd` are the `(c, 1)` / `(1, c)` instances.  `h1`: multiplication by 1.0 is the identity on
    tensors, which `SMul Float V` alone does not say. -/
theorem scale_fwd_instance (c : Float) (x g : V) (h1 : ∀ v : V, (1.0 : Float) • v = v) :
    (eagerScale id c 1.0 : DOp V V).fwd x = c • x ∧ (eagerScale id c 1.0 : DOp V V).vjp x g = g :=
  ⟨rfl, h1 g⟩

end USProofs.C20
