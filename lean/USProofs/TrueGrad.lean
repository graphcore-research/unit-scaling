/-
  "True gradient": a pull-back is the vector-Jacobian product of a map at a point when it is
  the adjoint of the Fréchet derivative there.  Used by C05TrueGrad, C06.
-/
import Mathlib.Analysis.InnerProductSpace.Basic
import Mathlib.Analysis.Calculus.FDeriv.Add
import Mathlib.Analysis.Calculus.FDeriv.Comp
import USModel.Autograd

open USModel

namespace USProofs

variable {X Y Z : Type}
  [NormedAddCommGroup X] [InnerProductSpace ℝ X]
  [NormedAddCommGroup Y] [InnerProductSpace ℝ Y]
  [NormedAddCommGroup Z] [InnerProductSpace ℝ Z]

-- `pull` is the VJP of `f` at `x`: `f` is differentiable at `x` and `pull` is the adjoint of its derivative.
-- Below the derivative is left to unification (`⟨_, …⟩`): it is the one the derivative lemma on the right produces
-- (`id`, `a • f'`, `f' + h'`, `g'.comp f'`), and writing it out makes Lean elaborate it a second time.
def IsVJPAt (f : X → Y) (pull : Y → X) (x : X) : Prop :=
  ∃ f' : X →L[ℝ] Y, HasFDerivAt f f' x ∧ ∀ v g, inner ℝ (f' v) g = inner ℝ v (pull g)

theorem IsVJPAt.id (x : X) : IsVJPAt (fun y : X => y) (fun g => g) x :=
  ⟨_, hasFDerivAt_id x, fun _ _ => rfl⟩

theorem IsVJPAt.const_smul {f : X → Y} {pull : Y → X} {x : X} (h : IsVJPAt f pull x) (a : ℝ) :
    IsVJPAt (fun y => a • f y) (fun g => a • pull g) x := by
  obtain ⟨f', hf, hadj⟩ := h
  refine ⟨_, hf.const_smul a, fun v g => ?_⟩
  simp only [smul_apply, real_inner_smul_left, real_inner_smul_right, hadj]

theorem IsVJPAt.add {f h : X → Y} {p q : Y → X} {x : X} (hf : IsVJPAt f p x)
    (hh : IsVJPAt h q x) : IsVJPAt (fun y => f y + h y) (fun g => p g + q g) x := by
  obtain ⟨f', hf', ha⟩ := hf
  obtain ⟨h', hh', hb⟩ := hh
  refine ⟨_, hf'.add hh', fun v g => ?_⟩
  simp only [add_apply, inner_add_left, inner_add_right, ha, hb]

theorem IsVJPAt.comp {f : X → Y} {g : Y → Z} {p : Y → X} {q : Z → Y} {x : X}
    (hf : IsVJPAt f p x) (hg : IsVJPAt g q (f x)) :
    IsVJPAt (fun y => g (f y)) (fun c => p (q c)) x := by
  obtain ⟨f', hf', ha⟩ := hf
  obtain ⟨g', hg', hb⟩ := hg
  exact ⟨_, hg'.comp x hf', fun v c => (hb (f' v) c).trans (ha v (q c))⟩

theorem IsVJPAt.unique {f : X → Y} {p q : Y → X} {x : X} (hp : IsVJPAt f p x)
    (hq : IsVJPAt f q x) : p = q := by
  obtain ⟨f', hf', ha⟩ := hp
  obtain ⟨g', hg', hb⟩ := hq
  obtain rfl := hf'.unique hg'
  exact funext fun g => ext_inner_left ℝ fun v => (ha v g).symm.trans (hb v g)

-- the backward function of `F` at `x` is the VJP of its forward function there
def DOp.TrueAt (F : DOp X Y) (x : X) : Prop := IsVJPAt F.fwd (F.vjp x) x

end USProofs
