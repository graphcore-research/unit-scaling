import Mathlib.Tactic.Attr.Register

/-- Rewrites a model expression instantiated at `ℝ` into ordinary real-number notation
    (`nat n ↦ (n : ℝ)`, `Transc.pow ↦ ^`, `powHalf ↦ √`, …) and evaluates the `Except` plumbing. -/
register_simp_attr real_model
