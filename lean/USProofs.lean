import USProofs.Attr
import USProofs.RealInst
import USProofs.TrueGrad
import USProofs.Properties.C01
import USProofs.Properties.C02
import USProofs.Properties.C03
import USProofs.Properties.C03Broadcast
import USProofs.Properties.C03Residual
import USProofs.Properties.C04
import USProofs.Properties.C05
import USProofs.Properties.C05TrueGrad
import USProofs.Properties.C06
import USProofs.Properties.C07
import USProofs.Properties.C08
import USProofs.Properties.C09
import USProofs.Properties.C10
import USProofs.Properties.C10Depth
import USProofs.Properties.C11
import USProofs.Properties.C11Global
import USProofs.Properties.C12
import USProofs.Properties.C13
import USProofs.Properties.C13E8
import USProofs.Properties.C13Normal
import USProofs.Properties.C13Pattern
import USProofs.Properties.C13Range
import USProofs.Properties.C13Signed
import USProofs.Properties.C13Sub
import USProofs.Properties.C13Value
import USProofs.Properties.C14
import USProofs.Properties.C14Quantise
import USProofs.Properties.C15
import USProofs.Properties.C15Binding
import USProofs.Properties.C15WellFormed
import USProofs.Properties.C16
import USProofs.Properties.C16Deps
import USProofs.Properties.C16Order
import USProofs.Properties.C16Refs
import USProofs.Properties.C16Topo
import USProofs.Properties.C16WellFormed
import USProofs.Properties.C17
import USProofs.Properties.C17General
import USProofs.Properties.C17Histories
import USProofs.Properties.C17Nest
import USProofs.Properties.C18
import USProofs.Properties.C18Dag
import USProofs.Properties.C18Metrics
import USProofs.Properties.C19
import USProofs.Properties.C19Reach
import USProofs.Properties.C19Topo
import USProofs.Properties.C20
import USProofs.Properties.C20Composite
